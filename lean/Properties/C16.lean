import Properties.C01
import Properties.ExceptLemmas
/-!
# C16 — Truncated or inconsistent FCS files fail loudly instead of yielding other data

The data-level theorems are those of `Properties.C01` (`readData_ok`,
`readData_short_file_error`), restated here as the C16 obligations, plus the
header-level facts.
-/
namespace FlowCal.C16
open FlowCal.Data FlowCal.Py FlowCal.File FlowCal.C01

/-- Loading succeeds only if the declared size is the extent or the extent minus one,
the array lies inside the file, and one row per declared event is returned. -/
theorem load_ok_only_if_sizes_match (file : List Nat) (b e : Nat) (dt : DType) (n : Nat) (ws : List Nat)
    (be : Bool) (bu : Option (List Nat)) (m : List (List Nat))
    (h : readData file b e dt n ws be bu = .ok m) :
    (totalBytes dt n ws = e + 1 - b ∧ b ≤ e + 1 ∨ totalBytes dt n ws = e - b ∧ b ≤ e) ∧
    b + totalBytes dt n ws ≤ file.length ∧ m.length = n := by
  have := readData_ok file b e dt n ws be bu m h
  exact ⟨this.1, this.2.1, this.2.2.2⟩

/-- Cutting the file anywhere inside (or before) the declared array makes the read fail. -/
theorem truncated_data_fails (file : List Nat) (cut b e : Nat) (dt : DType) (n : Nat) (ws : List Nat)
    (be : Bool) (bu : Option (List Nat)) (hcut : cut < b + totalBytes dt n ws) :
    ∃ err, readData (file.take cut) b e dt n ws be bu = .error err :=
  readData_short_file_error _ _ _ _ _ _ _ _ (Nat.lt_of_le_of_lt (List.length_take_le ..) hcut)

/-- A corrupted `$TOT`, `$PAR`, `$PnB` or offset whose implied size is neither the
extent nor the extent minus one is refused. -/
theorem inconsistent_size_fails (file : List Nat) (b e : Nat) (dt : DType) (n : Nat) (ws : List Nat)
    (be : Bool) (bu : Option (List Nat))
    (h1 : ¬ (totalBytes dt n ws = e + 1 - b ∧ b ≤ e + 1)) (h2 : ¬ (totalBytes dt n ws = e - b ∧ b ≤ e)) :
    ∃ err, readData file b e dt n ws be bu = .error err :=
  exists_error_of_not_ok fun m hr => (readData_ok file b e dt n ws be bu m hr).1.elim h1 h2

/-- A file that ends before the HEADER's fourth offset field begins (byte 34, the end of DATA) cannot be loaded. -/
theorem short_header_fails (file : List Nat) (h : file.length ≤ 34) :
    ∃ err, loadFile file = .error err := by
  have hf : (file.drop (10 + 8 * 3)).take 8 = [] := by
    simp; omega
  unfold loadFile
  cases hh : parseHeader file with
  | error e => exact ⟨e, rfl⟩
  | ok hd =>
    -- a successful parse has read the fourth offset field, and `int(b'')` raises
    simp only [parseHeader, Exc.bind_eq_ok, hf] at hh
    obtain ⟨_, _, _, _, _, _, _, h4, _⟩ := hh
    cases h4

theorem empty_file_fails : loadFile [] = .error .ValueError := by decide +kernel

end FlowCal.C16
