import FlowCalModel.File
/-!
# C01 — Loading an FCS file returns exactly the events recorded in it
-/
namespace FlowCal.C01
open FlowCal.Data FlowCal.Py

/-! ## Bytes ↔ values -/

theorem toBytesLE_length (n v : Nat) : (toBytesLE n v).length = n := by
  induction n generalizing v with
  | zero => rfl
  | succ n ih => simp [toBytesLE, ih]

theorem ofBytesLE_toBytesLE (n v : Nat) (h : v < 256 ^ n) : ofBytesLE (toBytesLE n v) = v := by
  induction n generalizing v with
  | zero => rw [Nat.lt_one_iff.mp h]; rfl
  | succ n ih =>
    rw [toBytesLE, ofBytesLE, ih _ (Nat.div_lt_of_lt_mul (by rwa [Nat.pow_succ, Nat.mul_comm] at h))]
    exact Nat.mod_add_div v 256

/-- **Round trip of one value**, both byte orders, every width `n` bytes. -/
theorem ofBytes_toBytes (be : Bool) (n v : Nat) (h : v < 256 ^ n) :
    ofBytes be (toBytes be n v) = v := by
  cases be <;> simp [ofBytes, toBytes, ofBytesLE_toBytesLE n v h]

theorem toBytes_length (be : Bool) (n v : Nat) : (toBytes be n v).length = n := by
  cases be <;> simp [toBytes, toBytesLE_length]

theorem ofBytesLE_append (a b : List Nat) :
    ofBytesLE (a ++ b) = ofBytesLE a + 256 ^ a.length * ofBytesLE b := by
  induction a with
  | nil => simp [ofBytesLE]
  | cons x a ih =>
    rw [List.cons_append, ofBytesLE, ih, ofBytesLE, List.length_cons, Nat.pow_succ, Nat.mul_add, Nat.add_assoc,
      Nat.mul_left_comm, Nat.mul_assoc]

theorem ofBytesLE_lt (bs : List Nat) (h : ∀ b ∈ bs, b < 256) : ofBytesLE bs < 256 ^ bs.length := by
  induction bs with
  | nil => simp [ofBytesLE]
  | cons x bs ih =>
    have hx := h x (by simp)
    have := ih (fun b hb => h b (by simp [hb]))
    simp only [ofBytesLE, List.length_cons, Nat.pow_succ]
    omega

theorem ofBytes_lt (be : Bool) (bs : List Nat) (h : ∀ b ∈ bs, b < 256) : ofBytes be bs < 256 ^ bs.length := by
  cases be
  · exact ofBytesLE_lt bs h
  · exact List.length_reverse ▸ ofBytesLE_lt bs.reverse fun b hb => h b (List.mem_reverse.mp hb)

theorem toBytes_lt (be : Bool) (n v : Nat) : ∀ b ∈ toBytes be n v, b < 256 := by
  have hle : ∀ b ∈ toBytesLE n v, b < 256 := by
    induction n generalizing v with
    | zero => nofun
    | succ n ih => exact fun b hb => (List.mem_cons.mp hb).elim (· ▸ Nat.mod_lt _ (by decide)) (ih _ b)
  cases be
  · exact hle
  · exact fun b hb => hle b (List.mem_reverse.mp hb)

/-! ## The shift-accumulate loop of the mixed-width path -/

theorem pow256 (n : Nat) : (256 : Nat) ^ n = 2 ^ (8 * n) := by rw [Nat.pow_mul]

/-- The loop over little-endian bytes, entered with `a` in the accumulator and the bytes of `bs` standing at positions
`k, k+1, …`: induction on `bs`, the first byte leaves the list and `k`, `a` move on. -/
theorem foldl_le (M : Nat) (bs : List Nat) (k a : Nat) :
    (List.range bs.length).foldl (fun acc b => (acc + bs.getD b 0 * 2 ^ (8 * (b + k)) % M) % M) (a % M)
      = (a + 256 ^ k * ofBytesLE bs) % M := by
  induction bs generalizing k a with
  | nil => rfl
  | cons x bs ih =>
    rw [List.length_cons, List.range_succ_eq_map, List.foldl_cons, List.foldl_map, ← Nat.add_mod]
    simp only [List.getD_cons_succ, Nat.succ_eq_add_one, Nat.add_assoc]
    rw [ih (1 + k), ofBytesLE, List.getD_cons_zero, Nat.zero_add, Nat.add_assoc, ← pow256, Nat.pow_add, Nat.pow_one,
      Nat.mul_add, Nat.mul_comm x, Nat.mul_assoc, Nat.mul_left_comm 256]

/-- The same loop over big-endian bytes: the first byte is the most significant. -/
theorem foldl_be (M : Nat) (bs : List Nat) (a : Nat) :
    (List.range bs.length).foldl (fun acc b => (acc + bs.getD b 0 * 2 ^ (8 * (bs.length - b - 1)) % M) % M) (a % M)
      = (a + ofBytesLE bs.reverse) % M := by
  induction bs generalizing a with
  | nil => rfl
  | cons x bs ih =>
    rw [List.length_cons, List.range_succ_eq_map, List.foldl_cons, List.foldl_map, ← Nat.add_mod]
    simp only [List.getD_cons_succ, Nat.succ_eq_add_one, Nat.add_sub_add_right]
    rw [ih, List.reverse_cons, ofBytesLE_append, List.getD_cons_zero, pow256, Nat.add_assoc, Nat.add_comm (x * _)]
    simp [ofBytesLE, Nat.mul_comm]

/-- a byte-aligned width holds exactly the values below `2 ^ w` -/
theorem pow256_div8 {w : Nat} (h : w % 8 = 0) : (256 : Nat) ^ (w / 8) = 2 ^ w := by
  rw [pow256, Nat.mul_div_cancel' (Nat.dvd_of_mod_eq_zero h)]

/-- What the loop computes of any byte string in a container of any width: `accumulate` unfolds to the two loops above, entered with
`a = 0` (and `k = 0`). -/
theorem accumulate_eq_mod (be : Bool) (U : Nat) (bs : List Nat) : accumulate be U bs.length bs = ofBytes be bs % 2 ^ U := by
  cases be
  · have := foldl_le (2 ^ U) bs 0 0
    rwa [Nat.pow_zero, Nat.one_mul, Nat.zero_add] at this
  · have := foldl_be (2 ^ U) bs 0
    rwa [Nat.zero_add] at this

/-- **The byte-accumulation loop computes the encoded value**: for a column of
`nb` bytes (each `< 256`) accumulated in an unsigned integer of `U ≥ 8·nb`
bits, the result is the big- or little-endian value of those bytes — the
modular wrap-around of the NumPy container never bites. -/
theorem accumulate_eq_ofBytes (be : Bool) (U : Nat) (bs : List Nat)
    (hb : ∀ b ∈ bs, b < 256) (hU : 8 * bs.length ≤ U) :
    accumulate be U bs.length bs = ofBytes be bs :=
  (accumulate_eq_mod be U bs).trans <| Nat.mod_eq_of_lt <|
    Nat.lt_of_lt_of_le (ofBytes_lt be bs hb) (pow256 _ ▸ Nat.pow_le_pow_right (by decide) hU)

/-- accumulate ∘ toBytes = id : one column of the mixed-width path round-trips. -/
theorem accumulate_toBytes (be : Bool) (U n v : Nat) (hv : v < 256 ^ n) (hU : 8 * n ≤ U) :
    accumulate be U n (toBytes be n v) = v := by
  have := accumulate_eq_ofBytes be U (toBytes be n v) (toBytes_lt be n v) (by rwa [toBytes_length])
  rwa [toBytes_length, ofBytes_toBytes be n v hv] at this

/-! ## Range mask -/

/-- The mask keeps exactly the low `bits` bits, and is the identity on values below the declared range. -/
theorem applyMask_lt (bits v : Nat) (h : v < 2 ^ bits) : applyMask bits v = v :=
  Nat.mod_eq_of_lt h

theorem applyMask_lt_pow (bits v : Nat) : applyMask bits v < 2 ^ bits :=
  Nat.mod_lt _ (Nat.two_pow_pos bits)


/-! ## `read_fcs_data_segment`: when it succeeds, and with what -/

theorem chunks_length (k n : Nat) (l : List Nat) : (chunks k n l).length = n := by
  induction n generalizing l with
  | zero => rfl
  | succ n ih => simp [chunks, ih]

/-- bytes the reader is about to interpret, per datatype -/
def totalBytes (dt : DType) (n : Nat) (ws : List Nat) : Nat :=
  match dt with
  | .I => if isUniform ws then n * ws.length * (ws.headD 0 / 8) else n * rowBytes ws
  | .F => n * ws.length * 4
  | .D => n * ws.length * 8
  | _ => 0

/-- The checks of `readData` that look only at the datatype and the widths. -/
def LayoutOk (dt : DType) (ws : List Nat) : Prop :=
  match dt with
  | .I => if isUniform ws then ws ≠ []
          else (∀ w ∈ ws, w % 8 = 0) ∧ (∀ w ∈ ws, w ≤ 64) ∧ ws.foldl max 0 ≠ 0
  | .F => ∀ w ∈ ws, w = 32
  | .D => ∀ w ∈ ws, w = 64
  | _ => False

/-- What `readData` makes of the mapped bytes. -/
def decodeData (dt : DType) (be : Bool) (ws : List Nat) (n : Nat) (bytes : List Nat) (bu : Option (List Nat)) :
    List (List Nat) :=
  match dt with
  | .I => decodeInt be ws n bytes bu
  | .F => (chunks (4 * ws.length) n bytes).map (decodeRowUniform be 32 ws.length)
  | .D => (chunks (8 * ws.length) n bytes).map (decodeRowUniform be 64 ws.length)
  | _ => []

theorem sizeOk_iff (b e total : Nat) :
    readData.sizeOk b e total = true ↔ (total = e + 1 - b ∧ b ≤ e + 1 ∨ total = e - b ∧ b ≤ e) := by
  simp [readData.sizeOk]

theorem mmap_eq (file : List Nat) (b total : Nat) (k : List Nat → List (List Nat)) :
    readData.mmap file b total k =
      if file.length ≠ 0 ∧ b + total ≤ file.length then .ok (k ((file.drop b).take total)) else .error .ValueError := by
  simp only [readData.mmap, beq_iff_eq, gt_iff_lt, ← Nat.not_le, ne_eq, ite_not]
  split <;> simp [*]

theorem ite_error_eq_ok {α : Type} {c : Prop} [Decidable c] {e : PyErr} {x : Except PyErr α} {a : α} :
    (if c then .error e else x) = .ok a ↔ ¬c ∧ x = .ok a := by
  split <;> simp [*]

theorem ite_else_error_eq_ok {α : Type} {c : Prop} [Decidable c] {e : PyErr} {x : Except PyErr α} {a : α} :
    (if c then x else .error e) = .ok a ↔ c ∧ x = .ok a := by
  split <;> simp [*]

theorem maskFits_iff (bu : Option (List Nat)) (U : Nat) :
    readData.maskFits bu U = true ↔ ∀ l, bu = some l → ∀ x ∈ l, x ≤ U := by
  cases bu <;> simp [readData.maskFits]

theorem readData_eq (file : List Nat) (b e : Nat) (dt : DType) (n : Nat) (ws : List Nat) (be : Bool)
    (bu : Option (List Nat)) :
    readData file b e dt n ws be bu =
      if ∀ l, bu = some l → l.length = ws.length then readData.go file b e dt n ws be bu else .error .ValueError := by
  cases bu <;> simp [readData]

theorem readData_eq_ok_iff (file : List Nat) (b e : Nat) (dt : DType) (n : Nat) (ws : List Nat) (be : Bool)
    (bu : Option (List Nat)) (m : List (List Nat)) :
    readData file b e dt n ws be bu = .ok m ↔
      (∀ l, bu = some l → l.length = ws.length) ∧
      LayoutOk dt ws ∧
      (totalBytes dt n ws = e + 1 - b ∧ b ≤ e + 1 ∨ totalBytes dt n ws = e - b ∧ b ≤ e) ∧
      (file.length ≠ 0 ∧ b + totalBytes dt n ws ≤ file.length) ∧
      (dt = .I → ∀ l, bu = some l → ∀ x ∈ l, x ≤ if isUniform ws then ws.headD 0 else upcastBits ws) ∧
      decodeData dt be ws n ((file.drop b).take (totalBytes dt n ws)) bu = m := by
  rw [readData_eq, ite_else_error_eq_ok]
  unfold readData.go
  cases dt with
  | I =>
    -- the result of `mmap` is scrutinised by a `match`, so decide first whether it succeeds
    cases hu : isUniform ws <;> by_cases hseg : file.length ≠ 0 ∧ b + totalBytes .I n ws ≤ file.length <;>
      simp only [totalBytes, hu, if_true, Bool.false_eq_true, if_false] at hseg <;>
      simp only [hu, hseg, LayoutOk, totalBytes, decodeData, mmap_eq, ite_error_eq_ok, ite_else_error_eq_ok, maskFits_iff, sizeOk_iff,
        List.isEmpty_iff, List.all_eq_true, List.any_eq_false, beq_iff_eq, decide_eq_true_eq, gt_iff_lt, Nat.not_lt,
        Bool.or_eq_true, Bool.not_eq_true', Bool.not_eq_false, Bool.not_eq_true, Bool.false_eq_true, Except.ok.injEq, reduceCtorEq,
        ne_eq, not_or, not_false_eq_true, if_true, if_false, true_imp_iff, and_self, true_and, and_false, false_and, and_assoc]
    -- `TypeError` for all-zero widths is raised after the mapping, `LayoutOk` lists it with the other conditions on the widths
    exact ⟨fun ⟨a, p, q, c, d, r⟩ => ⟨a, p, q, d, c, r⟩, fun ⟨a, p, q, d, c, r⟩ => ⟨a, p, q, c, d, r⟩⟩
  | F | D =>
    simp only [LayoutOk, totalBytes, decodeData, mmap_eq, ite_error_eq_ok, ite_else_error_eq_ok, sizeOk_iff,
        List.all_eq_true, beq_iff_eq, Bool.not_eq_true', Bool.not_eq_false, Except.ok.injEq, reduceCtorEq,
        ne_eq, false_imp_iff, true_and, and_assoc]
  | A | other => simp only [LayoutOk, reduceCtorEq, false_and, and_false]

theorem decodeInt_length (be : Bool) (ws : List Nat) (n : Nat) (bytes : List Nat) (bu : Option (List Nat)) :
    (decodeInt be ws n bytes bu).length = n := by
  cases bu <;> simp only [decodeInt] <;> split <;> simp [chunks_length]

theorem decodeData_length (dt : DType) (be : Bool) (ws : List Nat) (n : Nat) (bytes : List Nat)
    (bu : Option (List Nat)) (hL : LayoutOk dt ws) : (decodeData dt be ws n bytes bu).length = n := by
  cases dt <;> first | exact hL.elim | simp [decodeData, decodeInt_length, chunks_length]

/-- **A successful read implies the declared sizes match the bytes present**:
the computed array size equals the DATA extent or the extent minus one (the
tolerated one-past-the-end convention), the whole array lies inside the file,
and there is exactly one row per declared event. -/
theorem readData_ok (file : List Nat) (b e : Nat) (dt : DType) (n : Nat) (ws : List Nat) (be : Bool)
    (bu : Option (List Nat)) (m : List (List Nat))
    (h : readData file b e dt n ws be bu = .ok m) :
    (totalBytes dt n ws = e + 1 - b ∧ b ≤ e + 1 ∨ totalBytes dt n ws = e - b ∧ b ≤ e) ∧
    b + totalBytes dt n ws ≤ file.length ∧ file.length ≠ 0 ∧ m.length = n := by
  obtain ⟨-, hL, hsz, ⟨h0, hin⟩, -, rfl⟩ := (readData_eq_ok_iff ..).mp h
  exact ⟨hsz, hin, h0, decodeData_length _ _ _ _ _ _ hL⟩

theorem exists_error_of_not_ok {α : Type} {x : Except PyErr α} (h : ∀ a, x ≠ .ok a) : ∃ e, x = .error e := by
  cases x with
  | error e => exact ⟨e, rfl⟩
  | ok a => exact absurd rfl (h a)

/-- **Truncation at the data level**: if the file ends before the last byte
of the declared array, reading fails (it never returns a shorter or shifted matrix). -/
theorem readData_short_file_error (file : List Nat) (b e : Nat) (dt : DType) (n : Nat) (ws : List Nat)
    (be : Bool) (bu : Option (List Nat))
    (hshort : file.length < b + totalBytes dt n ws) :
    ∃ err, readData file b e dt n ws be bu = .error err :=
  exists_error_of_not_ok fun m hr => by
    have := (readData_ok file b e dt n ws be bu m hr).2.1
    omega

/-- **Reading a segment that sits in a file decodes exactly its bytes**: whatever precedes (`pre`, not empty: offset 0 would be
the HEADER) and follows it, under both conventions for the end offset. -/
theorem readData_segment (pre seg post : List Nat) (past : Bool) (dt : DType) (n : Nat) (ws : List Nat) (be : Bool)
    (bu : Option (List Nat)) (hne : pre ≠ []) (hext : 0 < seg.length ∨ past = true)
    (htot : totalBytes dt n ws = seg.length) (hL : LayoutOk dt ws)
    (hlen : ∀ l, bu = some l → l.length = ws.length)
    (hfit : dt = .I → ∀ l, bu = some l → ∀ x ∈ l, x ≤ if isUniform ws then ws.headD 0 else upcastBits ws) :
    readData (pre ++ seg ++ post) pre.length (pre.length + seg.length - (if past then 0 else 1)) dt n ws be bu
      = .ok (decodeData dt be ws n seg bu) := by
  refine (readData_eq_ok_iff ..).mpr ⟨hlen, hL, ?_, ⟨?_, ?_⟩, hfit, ?_⟩
  · rw [htot]
    cases past
    · exact .inl (by simp only [Bool.false_eq_true, if_false, or_false] at hext ⊢; omega)
    · exact .inr ⟨(Nat.add_sub_cancel_left ..).symm, Nat.le_add_right ..⟩
  · simp [hne]
  · simp [htot]
  · rw [htot, List.append_assoc, List.drop_left, List.take_left' rfl]

/-- ASCII data are refused, not decoded some other way. -/
theorem ascii_refused (file : List Nat) (b e n : Nat) (ws : List Nat) (be : Bool) :
    readData file b e .A n ws be none = .error .NotImplementedError := by
  simp [readData, readData.go]

/-- Integer parameters that are not byte aligned, or wider than 64 bits, are refused. -/
theorem unaligned_refused (file : List Nat) (b e n : Nat) (ws : List Nat) (be : Bool)
    (hu : isUniform ws = false) (h : (ws.all (· % 8 == 0)) = false ∨ ws.any (· > 64) = true) :
    readData file b e .I n ws be none = .error .NotImplementedError := by
  simp only [readData, readData.go, hu]
  rcases h with h | h <;> simp [h]

/-! ## Non-vacuity: a concrete 3-parameter [8,40,64]-bit little-endian matrix with all-ones entries -/
example : decodeRowMixed false [8, 40, 64] (encodeRow false [8, 40, 64] [255, 2^40 - 1, 2^64 - 1])
    = [255, 2^40 - 1, 2^64 - 1] := by decide +kernel
example : decodeRowMixed true [8, 40, 64] (encodeRow true [8, 40, 64] [0xAA, 0xAAAAAAAAAA, 0x5555555555555555])
    = [0xAA, 0xAAAAAAAAAA, 0x5555555555555555] := by decide +kernel
example : upcastBits [8, 40, 64] = 64 ∧ upcastBits [8, 24] = 32 ∧ upcastBits [8, 16] = 16 := by decide +kernel
example : boundaries [8, 40, 64] = [0, 1, 6] := by decide +kernel

end FlowCal.C01
