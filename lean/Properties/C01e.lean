import Properties.C01c
/-!
# C01 — the range masks of the real reader: a masked read is the unmasked read with every value reduced to the bits its declared
range needs; events that fit their declared ranges are therefore returned exactly.  Then the DATA segment as a whole:
`readData_roundtrip` for every datatype, layout and mask, and the per-layout statements as its instances.
-/
namespace FlowCal.C01
open FlowCal.Data FlowCal.Py

/-- what is asked of optional masks is stated as `∀ l, bu = some l → P l`; for `bu = some a` that is `P a` -/
theorem of_some {α : Type} {a : α} {P : α → Prop} (h : P a) : ∀ l, some a = some l → P l :=
  fun _ e => Option.some.inj e ▸ h

/-- the masked read performs the same checks as the unmasked one and then masks its rows -/
theorem readData_masked (file : List Nat) (b e n : Nat) (ws bu : List Nat) (be : Bool) (m : List (List Nat))
    (h : readData file b e .I n ws be none = .ok m) (hl : bu.length = ws.length)
    (hf : ∀ x ∈ bu, x ≤ (if isUniform ws then ws.headD 0 else upcastBits ws)) :
    readData file b e .I n ws be (some bu) = .ok (maskRows bu m) := by
  obtain ⟨-, hL, hsz, hseg, -, rfl⟩ := (readData_eq_ok_iff ..).mp h
  exact (readData_eq_ok_iff ..).mpr
    ⟨of_some hl, hL, hsz, hseg, fun _ => of_some hf, decodeInt_mask ..⟩

/-- the events fit the bit counts derived from the declared ranges -/
def FitsBits (bu : List Nat) (m : List (List Nat)) : Prop :=
  ∀ r ∈ m, r.length = bu.length ∧ ∀ p ∈ r.zip bu, p.1 < 2 ^ p.2

instance (bu : List Nat) (m : List (List Nat)) : Decidable (FitsBits bu m) := by unfold FitsBits; infer_instance

/-- events that fit their declared ranges pass the masks unchanged -/
theorem readData_masked_id (file : List Nat) (b e n : Nat) (ws bu : List Nat) (be : Bool) (m : List (List Nat))
    (h : readData file b e .I n ws be none = .ok m) (hl : bu.length = ws.length)
    (hf : ∀ x ∈ bu, x ≤ (if isUniform ws then ws.headD 0 else upcastBits ws)) (hbits : FitsBits bu m) :
    readData file b e .I n ws be (some bu) = .ok m := by
  rw [readData_masked file b e n ws bu be m h hl hf, maskRows_id bu m hbits]

/-- **Every accepted layout round-trips at the matrix level**: integers by `decodeInt_encodeEvents`, floats by aligned reads of their 32/64-bit patterns
(the reinterpretation of a pattern as an IEEE number is NumPy's and is trusted); range masks that the events fit change nothing. -/
theorem decodeData_encodeEvents (dt : DType) (be : Bool) (ws : List Nat) (bu : Option (List Nat)) (m : List (List Nat))
    (hL : LayoutOk dt ws) (hm : WellFormed ws m) (hbits : dt = .I → ∀ l, bu = some l → FitsBits l m) :
    decodeData dt be ws m.length (encodeEvents be ws m) bu = m := by
  cases dt with
  | I =>
    cases bu with
    | none => exact decodeInt_encodeEvents be ws m hL hm
    | some l => rw [decodeData, decodeInt_mask, decodeInt_encodeEvents be ws m hL hm, maskRows_id l m (hbits rfl l rfl)]
  | F | D =>
    have hw := List.eq_replicate_iff.mpr ⟨rfl, hL⟩
    generalize ws.length = D at hw; subst hw
    simpa [decodeData, rowBytes_replicate, Nat.mul_comm] using uniform_rows be D _ m hm rfl
  | A | other => exact hL.elim

/-- **Reading a DATA segment out of a file returns exactly the recorded events** — every accepted datatype and layout, both byte
orders, both end conventions, any position in the file, with or without range masks (which the events must fit). -/
theorem readData_roundtrip (dt : DType) (be : Bool) (ws : List Nat) (bu : Option (List Nat)) (m : List (List Nat))
    (pre post : List Nat) (past : Bool) (hL : LayoutOk dt ws)
    (hm : WellFormed ws m) (hne : pre ≠ []) (hext : 0 < m.length * rowBytes ws ∨ past = true)
    (hlen : ∀ l, bu = some l → l.length = ws.length)
    (hfit : dt = .I → ∀ l, bu = some l → ∀ x ∈ l, x ≤ if isUniform ws then ws.headD 0 else upcastBits ws)
    (hbits : dt = .I → ∀ l, bu = some l → FitsBits l m) :
    readData (pre ++ encodeEvents be ws m ++ post) pre.length
      (pre.length + m.length * rowBytes ws - (if past then 0 else 1)) dt m.length ws be bu = .ok m := by
  have hlenE := encodeEvents_length be ws m hm
  rw [← hlenE] at hext ⊢
  rw [readData_segment pre _ post past dt m.length ws be bu hne hext (by rw [totalBytes_eq dt _ ws hL, hlenE]) hL hlen hfit,
    decodeData_encodeEvents dt be ws bu m hL hm hbits]

/-- **Reading a mixed-width DATA segment out of a file returns exactly the recorded events**, wherever the
segment sits in the file (`pre`), whatever follows it (`post`), for both end-offset conventions
(last byte / one past), both byte orders, any number of events. -/
theorem readData_mixed_roundtrip (be : Bool) (ws : List Nat) (m : List (List Nat)) (pre post : List Nat) (past : Bool)
    (hu : isUniform ws = false) (h8 : ∀ w ∈ ws, w % 8 = 0) (h64 : ∀ w ∈ ws, w ≤ 64) (hU : ∀ w ∈ ws, w ≤ upcastBits ws)
    (hm : WellFormed ws m) (hne : pre ≠ [])
    (hpos : ws.foldl max 0 ≠ 0)     -- some parameter has a non-zero width (all-zero widths are refused: no container type)
    (hext : 0 < m.length * rowBytes ws ∨ past = true) :
    readData (pre ++ encodeEvents be ws m ++ post) pre.length
      (pre.length + m.length * rowBytes ws - (if past then 0 else 1)) .I m.length ws be none = .ok m := by
  have _ := hU   -- not needed: it holds of every `ws` (`le_upcastBits`)
  exact readData_roundtrip .I be ws none m pre post past (by rw [LayoutOk, hu]; exact ⟨h8, h64, hpos⟩) hm hne hext
    nofun nofun nofun

/-- **Reading a mixed-width DATA segment with the range masks returns exactly the recorded events** when every value fits the bits its
declared range needs — the situation of every well-formed file (both byte orders, both end conventions, any position in the file). -/
theorem readData_mixed_roundtrip_masked (be : Bool) (ws bu : List Nat) (m : List (List Nat)) (pre post : List Nat) (past : Bool)
    (hu : isUniform ws = false) (h8 : ∀ w ∈ ws, w % 8 = 0) (h64 : ∀ w ∈ ws, w ≤ 64) (hU : ∀ w ∈ ws, w ≤ upcastBits ws)
    (hm : WellFormed ws m) (hne : pre ≠ []) (hpos : ws.foldl max 0 ≠ 0)
    (hext : 0 < m.length * rowBytes ws ∨ past = true)
    (hlen : bu.length = ws.length) (hfits : ∀ b ∈ bu, b ≤ upcastBits ws) (hbits : FitsBits bu m) :
    readData (pre ++ encodeEvents be ws m ++ post) pre.length
      (pre.length + m.length * rowBytes ws - (if past then 0 else 1)) .I m.length ws be (some bu) = .ok m := by
  have _ := hU   -- not needed, as above
  exact readData_roundtrip .I be ws (some bu) m pre post past (by rw [LayoutOk, hu]; exact ⟨h8, h64, hpos⟩) hm hne
    hext (of_some hlen) (fun _ => of_some (by rw [hu]; exact hfits)) (fun _ => of_some hbits)

/-- **Reading a uniform-width integer DATA segment out of a file returns exactly the recorded events** (8, 16, 32 or 64 bits
for every parameter; both byte orders; both end conventions; any position in the file). -/
theorem readData_uniform_roundtrip (be : Bool) (D w : Nat) (m : List (List Nat)) (pre post : List Nat) (past : Bool)
    (hw : w = 8 ∨ w = 16 ∨ w = 32 ∨ w = 64) (hD : 0 < D) (hm : WellFormed (List.replicate D w) m) (hne : pre ≠ [])
    (hext : 0 < m.length * rowBytes (List.replicate D w) ∨ past = true) :
    readData (pre ++ encodeEvents be (List.replicate D w) m ++ post) pre.length
      (pre.length + m.length * rowBytes (List.replicate D w) - (if past then 0 else 1)) .I m.length (List.replicate D w) be none = .ok m := by
  have hu : isUniform (List.replicate D w) = true := (isUniform_iff _).mpr ⟨w, hw, by rw [List.length_replicate]⟩
  exact readData_roundtrip .I be _ none m pre post past (by simp [LayoutOk, hu]; omega) hm hne hext
    nofun nofun nofun

/-- **Reading a floating-point DATA segment returns the recorded bit patterns** (`$DATATYPE` F: 32 bits, D: 64 bits; both byte
orders, both end conventions, any position; the range masks play no role for floats). -/
theorem readData_float_roundtrip (be : Bool) (dbl : Bool) (D : Nat) (m : List (List Nat)) (pre post : List Nat) (past : Bool)
    (bu : Option (List Nat)) (hbu : ∀ l, bu = some l → l.length = D)
    (hm : WellFormed (List.replicate D (if dbl then 64 else 32)) m) (hne : pre ≠ [])
    (hext : 0 < m.length * rowBytes (List.replicate D (if dbl then 64 else 32)) ∨ past = true) :
    readData (pre ++ encodeEvents be (List.replicate D (if dbl then 64 else 32)) m ++ post) pre.length
      (pre.length + m.length * rowBytes (List.replicate D (if dbl then 64 else 32)) - (if past then 0 else 1))
      (if dbl then .D else .F) m.length (List.replicate D (if dbl then 64 else 32)) be bu = .ok m := by
  cases dbl <;> exact readData_roundtrip _ be _ bu m pre post past (fun _ => List.eq_of_mem_replicate) hm hne hext
    (by simpa using hbu) nofun nofun

/-- non-vacuity: 24- and 16-bit parameters with ranges 2^20 and 1024 -/
example : FitsBits [20, 10] [[1048575, 1023], [0, 512]] ∧ WellFormed [24, 16] [[1048575, 1023], [0, 512]] := by decide +kernel

end FlowCal.C01
