import Properties.C18
/-!
# C19 — Histogram bin edges are increasing, complete and centred on channel values

All three kinds of edges are NumPy's `linspace` grid (`linspaceAt`) over the range widened by half a step on both sides, taken as
is (linear), in `log10` space and mapped back by `10**·` (log), or over the display interval `[0, M]` and mapped by the logicle
function (logicle).  The grid is affine in the index; the log and logicle theorems are the linear ones composed with a strictly
increasing map.
-/
namespace FlowCal.C19
open FlowCal.Logicle FlowCal.C18

/-! ## `linspace` -/

theorem linspaceAt_zero (a b n : ℝ) : linspaceAt a b n 0 = a := by simp [linspaceAt]

theorem linspaceAt_last (a b n : ℝ) (hn : n ≠ 0) : linspaceAt a b n n = b := by
  rw [linspaceAt, mul_div_cancel₀ _ hn, add_sub_cancel]

theorem linspaceAt_strictMono (a b n : ℝ) (h : a < b) (hn : 0 < n) : StrictMono (linspaceAt a b n) :=
  fun _ _ hij => add_lt_add_right (mul_lt_mul_of_pos_right hij (div_pos (sub_pos.2 h) hn)) a

/-! ## linear edges -/

theorem edgeLinear_eq (lo hi res n : ℝ) :
    edgeLinear lo hi res n = linspaceAt (lo - (hi - lo) / (res - 1) / 2) (hi + (hi - lo) / (res - 1) / 2) n := rfl

/-- `hist_bins` widens `[lo, hi]`, which holds `res` values `δ` apart, by `δ/2` on both sides -/
theorem widened {lo hi res : ℝ} (h : lo < hi) (hres : 1 < res) :
    lo - (hi - lo) / (res - 1) / 2 < lo ∧ hi < hi + (hi - lo) / (res - 1) / 2 :=
  have hδ : 0 < (hi - lo) / (res - 1) / 2 := half_pos (div_pos (sub_pos.2 h) (sub_pos.2 hres))
  ⟨sub_lt_self lo hδ, lt_add_of_pos_right hi hδ⟩

/-- linear edges are strictly increasing in the edge index -/
theorem edgeLinear_strictMono (lo hi res n : ℝ) (h : lo < hi) (hres : 1 < res) (hn : 0 < n) :
    StrictMono (edgeLinear lo hi res n) :=
  have w := widened h hres
  linspaceAt_strictMono _ _ n (w.1.trans (h.trans w.2)) hn

/-- **Coverage**: the first edge lies below the lower limit and the last edge above the upper limit,
so every value the detector can report falls inside the binning. -/
theorem edgeLinear_cover (lo hi res n : ℝ) (h : lo < hi) (hres : 1 < res) (hn : 0 < n) :
    edgeLinear lo hi res n 0 < lo ∧ hi < edgeLinear lo hi res n n := by
  rw [edgeLinear_eq, linspaceAt_zero, linspaceAt_last _ _ n hn.ne']
  exact widened h hres

/-- **Value-centred bins** with the default bin count (`n = res`): edge `i` is `lo - δ/2 + i·δ`, so the
`i`-th representable value `lo + i·δ` is exactly the centre of bin `i`. -/
theorem edgeLinear_centred (lo hi res i : ℝ) (hres : 1 < res) :
    let δ := (hi - lo) / (res - 1)
    edgeLinear lo hi res res i = lo - δ / 2 + i * δ ∧
    (edgeLinear lo hi res res i + edgeLinear lo hi res res (i + 1)) / 2 = lo + i * δ := by
  intro δ
  -- `res` bins over the widened range, which is `(res - 1)·δ + δ` long, have width `δ` again
  have step : (hi + δ / 2 - (lo - δ / 2)) / res = δ := by
    rw [div_eq_iff (one_pos.trans hres).ne']
    linear_combination (mul_div_cancel₀ (hi - lo) (sub_pos.2 hres).ne').symm
  have e : ∀ j, edgeLinear lo hi res res j = lo - δ / 2 + j * δ := fun j => by rw [edgeLinear_eq, linspaceAt, step]
  rw [e, e]
  exact ⟨rfl, by ring⟩

/-! ## log edges -/

/-- log edges are positive and strictly increasing (also when the range starts at zero, after the
lower limit has been replaced by a positive one) -/
theorem edgeLog_pos (lo hi res n i : ℝ) : 0 < edgeLog lo hi res n i := pow10_pos _

theorem edgeLog_strictMono (lo hi res n : ℝ) (hlo : 0 < lo) (h : lo < hi) (hres : 1 < res) (hn : 0 < n) :
    StrictMono (edgeLog lo hi res n) :=
  pow10_strictMono.comp (edgeLinear_strictMono _ _ res n (log10_lt hlo h) hres hn)

/-- log edges cover the range: the first edge is below the lower limit, the last above the upper -/
theorem edgeLog_cover (lo hi res n : ℝ) (hlo : 0 < lo) (h : lo < hi) (hres : 1 < res) (hn : 0 < n) :
    edgeLog lo hi res n 0 < lo ∧ hi < edgeLog lo hi res n n := by
  have c := edgeLinear_cover (log10 lo) (log10 hi) res n (log10_lt hlo h) hres hn
  exact ⟨(pow10_strictMono c.1).trans_eq (pow10_log10 hlo), (pow10_log10 (hlo.trans h)).symm.trans_lt (pow10_strictMono c.2)⟩

/-- in log scale with the default bin count the representable values of a log-amplified channel
(geometrically spaced) are the geometric centres of their bins -/
theorem edgeLog_centred (lo hi res i : ℝ) (hres : 1 < res) :
    let δ := (Real.logb 10 hi - Real.logb 10 lo) / (res - 1)
    edgeLog lo hi res res i * edgeLog lo hi res res (i + 1) = (pow10 (Real.logb 10 lo + i * δ) : ℝ) ^ (2 : ℕ) := by
  intro δ
  rw [edgeLog, edgeLog, ← pow10_add, pow_two, ← pow10_add]
  congr 1
  linear_combination 2 * (edgeLinear_centred (log10 lo) (log10 hi) res i hres).2

/-! ## logicle edges -/

/-- logicle edges are the images under the logicle function of the linear edges over the display interval `[0, M]` -/
theorem edgeLogicle_eq (T M W p res n : ℝ) : edgeLogicle T M W p res n = logicle T M W p ∘ edgeLinear 0 M res n := by
  funext i
  rw [Function.comp_apply, edgeLinear, sub_zero, zero_sub, ← neg_div]
  rfl

/-- hence strictly increasing -/
theorem edgeLogicle_strictMono (T M W p res n : ℝ) (hT : 0 < T) (hp : 0 < p) (hM : 0 < M) (hres : 1 < res) (hn : 0 < n) :
    StrictMono (edgeLogicle T M W p res n) :=
  edgeLogicle_eq T M W p res n ▸ (logicle_strictMono T M W p hT hp).comp (edgeLinear_strictMono 0 M res n hM hres hn)

/-- logicle edges are pairwise distinct and ordered like their indices (bins are non-empty intervals) -/
theorem edgeLogicle_lt_iff (T M W p res n i j : ℝ) (hT : 0 < T) (hp : 0 < p) (hM : 0 < M) (hres : 1 < res) (hn : 0 < n) :
    edgeLogicle T M W p res n i < edgeLogicle T M W p res n j ↔ i < j :=
  (edgeLogicle_strictMono T M W p res n hT hp hM hres hn).lt_iff_lt

/-- with the default `T` = upper range limit and `W ≥ 0`, the first logicle edge is below 0 -/
theorem edgeLogicle_first_neg (T M W p res n : ℝ) (hT : 0 < T) (hp : 0 < p) (hM : 0 < M) (hW : 0 ≤ W) (hres : 1 < res) :
    edgeLogicle T M W p res n 0 < 0 := by
  rw [edgeLogicle_eq, Function.comp_apply, edgeLinear_eq, linspaceAt_zero]
  exact (logicle_sign T M W p _ hT hp).1 ((widened hM hres).1.trans_le hW)

/-- **Coverage in logicle scale**: every data value shown at a display position in `[0, M]` (the whole
axis) lies strictly between the first and the last edge. -/
theorem edgeLogicle_cover (T M W p res n s : ℝ) (hT : 0 < T) (hp : 0 < p) (hM : 0 < M) (hres : 1 < res) (hn : 0 < n)
    (hs0 : 0 ≤ s) (hsM : s ≤ M) :
    edgeLogicle T M W p res n 0 < logicle T M W p s ∧ logicle T M W p s < edgeLogicle T M W p res n n := by
  have c := edgeLinear_cover 0 M res n hM hres hn
  have mono := logicle_strictMono T M W p hT hp
  rw [edgeLogicle_eq]
  exact ⟨mono (c.1.trans_le hs0), mono (hsM.trans_lt c.2)⟩

/-- **Display-centred bins** with the default bin count (`n = res`): edge `i` is the logicle value of
`-δ/2 + i·δ`, so the `i`-th of `res` equally spaced display positions `i·δ` (`δ = M/(res-1)`) is the
centre, in display space, of bin `i`. -/
theorem edgeLogicle_centred (T M W p res i : ℝ) (hres : 1 < res) :
    edgeLogicle T M W p res res i = logicle T M W p (i * (M / (res - 1)) - M / (res - 1) / 2) := by
  rw [edgeLogicle_eq, Function.comp_apply, (edgeLinear_centred 0 M res i hres).1, sub_zero]
  congr 1
  ring

end FlowCal.C19
