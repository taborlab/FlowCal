import Properties.C12
import Mathlib.Analysis.SpecialFunctions.Pow.Real
import Mathlib.Analysis.SpecialFunctions.Log.Basic
/-!
# C12 — the geometric mean: mean-of-logarithms form, root-of-product form, bounds

`stats.gmean` is documented as the geometric mean; SciPy evaluates it as the exponential of the mean logarithm, which is also what the
harness's textbook oracle uses. Over the reals that is the N-th root of the product of the events (`gmeanLog_eq_root_prod`), for every
number of strictly positive events, it lies between the smallest and the largest event (`le_gmeanLog_of_le`, `gmeanLog_le_of_le`) and never exceeds the
arithmetic mean (`gmeanLog_le_mean`; the harness checks `gmean ≤ mean` on the implementation's answers for positive columns).
The two forms differ only in machine arithmetic: the product of a few events of 32-bit magnitude already leaves the 64-bit range
(last example) — the seeded change `C12-m29` evaluated the product in the container's integer type.
-/
namespace FlowCal.C12

/-- the geometric mean as `stats.gmean` (SciPy) computes it: the exponential of the mean logarithm -/
noncomputable def gmeanLog (xs : List ℝ) : ℝ := Real.exp ((xs.map Real.log).sum / xs.length)

theorem log_prod_eq_sum_log (xs : List ℝ) (h : ∀ x ∈ xs, 0 < x) : Real.log xs.prod = (xs.map Real.log).sum :=
  Real.log_list_prod fun x hx => (h x hx).ne'

/-- over the reals the mean-of-logarithms form is the N-th root of the product of the events -/
theorem gmeanLog_eq_root_prod (xs : List ℝ) (h : ∀ x ∈ xs, 0 < x) :
    gmeanLog xs = xs.prod ^ ((1 : ℝ) / xs.length) := by
  have hp : 0 < xs.prod := List.prod_pos h
  unfold gmeanLog
  rw [Real.rpow_def_of_pos hp, log_prod_eq_sum_log xs h]
  congr 1
  ring

/-- comparing the geometric mean with a positive number is comparing the sum of logarithms with `N·log` of it -/
theorem gmeanLog_le_iff {xs : List ℝ} (hne : xs ≠ []) {m : ℝ} (hm : 0 < m) :
    gmeanLog xs ≤ m ↔ (xs.map Real.log).sum ≤ xs.length * Real.log m :=
  (Real.le_log_iff_exp_le hm).symm.trans (div_le_iff₀' (Nat.cast_pos.2 (List.length_pos_of_ne_nil hne)))

theorem le_gmeanLog_iff {xs : List ℝ} (hne : xs ≠ []) {m : ℝ} (hm : 0 < m) :
    m ≤ gmeanLog xs ↔ xs.length * Real.log m ≤ (xs.map Real.log).sum :=
  (Real.log_le_iff_le_exp hm).symm.trans (le_div_iff₀' (Nat.cast_pos.2 (List.length_pos_of_ne_nil hne)))

/-- the geometric mean is at most the largest event -/
theorem gmeanLog_le_of_le (xs : List ℝ) (hne : xs ≠ []) (b : ℝ) (hb : 0 < b) (h : ∀ x ∈ xs, 0 < x ∧ x ≤ b) : gmeanLog xs ≤ b := by
  rw [gmeanLog_le_iff hne hb, ← nsmul_eq_mul, ← List.length_map (f := Real.log)]
  exact List.sum_le_card_nsmul _ _ (List.forall_mem_map.2 fun x hx => Real.log_le_log (h x hx).1 (h x hx).2)

/-- the geometric mean is at least the smallest event -/
theorem le_gmeanLog_of_le (xs : List ℝ) (hne : xs ≠ []) (a : ℝ) (ha : 0 < a) (h : ∀ x ∈ xs, a ≤ x) : a ≤ gmeanLog xs := by
  rw [le_gmeanLog_iff hne ha, ← nsmul_eq_mul, ← List.length_map (f := Real.log)]
  exact List.card_nsmul_le_sum _ _ (List.forall_mem_map.2 fun x hx => Real.log_le_log ha (h x hx))

/-- a constant column has that constant as geometric mean -/
theorem gmeanLog_replicate (n : ℕ) (c : ℝ) (hc : 0 < c) : gmeanLog (List.replicate (n + 1) c) = c :=
  le_antisymm (gmeanLog_le_of_le _ (by simp) c hc fun x hx => (List.eq_of_mem_replicate hx).symm ▸ ⟨hc, le_rfl⟩)
    (le_gmeanLog_of_le _ (by simp) c hc fun x hx => (List.eq_of_mem_replicate hx).ge)

/-- the logarithm lies below its tangent at `m` -/
theorem log_le_tangent {x m : ℝ} (hx : 0 < x) (hm : 0 < m) : Real.log x ≤ Real.log m + (x - m) / m := by
  rw [sub_div, div_self hm.ne', ← sub_le_iff_le_add', ← Real.log_div hx.ne' hm.ne']
  exact Real.log_le_sub_one_of_pos (div_pos hx hm)

theorem sum_log_le_tangent (xs : List ℝ) (h : ∀ x ∈ xs, 0 < x) (m : ℝ) (hm : 0 < m) :
    (xs.map Real.log).sum ≤ xs.length * Real.log m + (xs.sum - xs.length * m) / m := by
  induction xs with
  | nil => simp
  | cons a t ih =>
    obtain ⟨ha, ht⟩ := List.forall_mem_cons.1 h
    simp only [List.map_cons, List.sum_cons, List.length_cons, Nat.cast_succ]
    linear_combination log_le_tangent ha hm + ih ht

/-- the geometric mean never exceeds the arithmetic mean (every number of strictly positive events) -/
theorem gmeanLog_le_mean (xs : List ℝ) (hne : xs ≠ []) (h : ∀ x ∈ xs, 0 < x) : gmeanLog xs ≤ xs.sum / xs.length := by
  have hlen : (0 : ℝ) < xs.length := Nat.cast_pos.2 (List.length_pos_of_ne_nil hne)
  have hm : 0 < xs.sum / xs.length := div_pos (List.sum_pos _ h hne) hlen
  -- the tangent bound at the arithmetic mean `m`, where `Σx - N·m` vanishes
  have key := sum_log_le_tangent xs h _ hm
  rwa [mul_div_cancel₀ _ hlen.ne', sub_self, zero_div, add_zero, ← gmeanLog_le_iff hne hm] at key

/-- the hypotheses are satisfiable by a non-trivial column -/
example : ([2, 8, 4] : List ℝ) ≠ [] ∧ ∀ x ∈ ([2, 8, 4] : List ℝ), (0 : ℝ) < x ∧ x ≤ 8 := by
  refine ⟨by simp, ?_⟩
  intro x hx
  simp only [List.mem_cons, List.not_mem_nil, or_false] at hx
  rcases hx with rfl | rfl | rfl <;> norm_num

/-- the product of three events of 32-bit magnitude leaves the 64-bit range: a product-based evaluation needs wider arithmetic than the container -/
example : (2 : ℕ) ^ 64 < 3000000000 * 3000000000 * 3000000000 := by decide +kernel

end FlowCal.C12
