import FlowCalModel.Index
import FlowCalModel.Generated
import Properties.ExceptLemmas
/-!
# C04 — Channel metadata stays aligned with columns under every indexing expression
-/
namespace FlowCal.C04
open FlowCal.Index FlowCal.Py FlowCal.Generated

/-- The seven channel attributes. -/
def channelAttrs : List String :=
  ["channels", "amplification_type", "detector_voltage", "amplifier_gain", "channel_labels", "range", "resolution"]

/-- **Generated-facts theorem** (re-checked against /repo on every run): `__getitem__`
has exactly three metadata branches, and every branch re-slices every one of the
seven channel attributes, each from itself only. -/
theorem branches_uniform :
    getitemBranches.length = 3 ∧
    ∀ br ∈ getitemBranches, br = channelAttrs.map (fun a => (a, [a])) := by decide +kernel

/-! ## Slices select in-range positions -/

/-- `range(cur, stop, st)` stays inside `[0, len)` if, going up, it starts at `0` or above and is to stop at `len` or
below and, going down, it starts below `len` and is to stop at `-1` or above -/
theorem go_lt {st stop : Int} {len : Nat} (hs : (0 < st → stop ≤ len) ∧ (st < 0 → -1 ≤ stop)) :
    ∀ (fuel : Nat) (cur : Int), (0 < st → 0 ≤ cur) ∧ (st < 0 → cur < len) → ∀ x ∈ sliceIndices.go st cur stop fuel, x < len
  | 0, _, _, _, hx => nomatch hx
  | fuel + 1, cur, hc, x, hx => by
    rw [sliceIndices.go] at hx
    split at hx
    · rename_i hin
      simp only [Bool.or_eq_true, Bool.and_eq_true, decide_eq_true_eq] at hin
      rcases List.mem_cons.1 hx with rfl | hx
      · omega
      · exact go_lt hs fuel _ (by omega) x hx
    · nomatch hx

/-- every position a slice selects lies inside the axis -/
theorem sliceIndices_lt (a b c : Option Int) (len : Nat) (l : List Nat)
    (h : sliceIndices a b c len = .ok l) : ∀ i ∈ l, i < len := by
  unfold sliceIndices at h
  dsimp only at h
  -- `split at h` on this term costs five times as much
  by_cases h0 : c.getD 1 = 0
  · rw [if_pos (beq_iff_eq.2 h0)] at h; nomatch h
  rw [if_neg (mt beq_iff_eq.1 h0)] at h
  cases h
  -- an absent bound is the end of `[0, len]` (going up) or `[-1, len - 1]` (going down) the range starts or stops at,
  -- a given one is brought into that interval
  apply go_lt
  · cases b <;> dsimp only <;> omega
  · cases a <;> dsimp only <;> omega

variable {μ : Type} [DecidableEq μ]
set_option linter.unusedSectionVars false

theorem filterMap_in_range {md : List μ} {is : List Nat} (h : ∀ i ∈ is, i < md.length) :
    (is.filterMap (fun i => md[i]?)).map some = is.map (fun i => md[i]?) := by
  rw [List.map_filterMap_some_eq_filter_map_isSome, List.filter_eq_self, List.forall_mem_map]
  exact fun i hi => List.getElem?_eq_getElem (h i hi) ▸ rfl

/-- Python's list indexing of one metadata attribute, as `metaSelect` writes it out -/
abbrev pyPick (md : List μ) (c : Int) : Except PyErr μ :=
  match pyIndex md.length c with
  | some k => (match md[k]? with | some m => Except.ok m | none => Except.error PyErr.IndexError)
  | none => Except.error PyErr.IndexError

/-- Python picks the entry at the position NumPy normalises the index to -/
theorem pyPick_toOption (md : List μ) (c : Int) :
    (pyPick md c).toOption = (npIndex md.length c).toOption.bind (fun k => md[k]?) := by
  unfold pyPick npIndex
  cases pyIndex md.length c with
  | none => rfl
  | some k => dsimp only [Except.toOption, Option.bind]; cases md[k]? <;> rfl

/-- metadata picked with Python semantics = metadata at the columns NumPy uses -/
theorem pick_many {md : List μ} {cs : List Int} {cl : List Nat} {m : List μ}
    (hcl : cs.mapM (npIndex md.length) = .ok cl) (hm : cs.mapM (pyPick md) = .ok m) : m.map some = cl.map (fun c => md[c]?) := by
  -- both result lists are images of `cs`; bring them to the two sides of `pyPick_toOption`
  have h1 := congrArg (List.map Except.toOption) (Exc.mapM_eq_ok.1 hm)
  have h2 := congrArg (List.map fun e => e.toOption.bind fun k => md[k]?) (Exc.mapM_eq_ok.1 hcl)
  simp only [List.map_map, Function.comp_def, pyPick_toOption] at h1 h2
  exact h1.symm.trans h2

theorem metaSelect_single (md : List μ) (c : Int) : metaSelect md (some (.single c)) = [c].mapM (pyPick md) := by
  simp only [metaSelect, List.mapM_cons, pyPick]
  cases pyIndex md.length c with
  | none => rfl
  | some k => dsimp only; cases md[k]? <;> rfl

/-- the columns a selector stands for -/
def selList : Sel → List Nat
  | .single k => [k]
  | .basic l => l
  | .adv l => l

/-- what `metaSelect` returns is the metadata at the columns `selCols` hands to NumPy: `ColsMatch`, said the same way for all
three kinds of selector -/
theorem metaSelect_cols {md : List μ} {csel : Option ColSel} {cs : Sel} {m : List μ}
    (hcs : selCols md.length csel = .ok cs) (hm : metaSelect md csel = .ok m) :
    m.map some = (selList cs).map (fun c => md[c]?) := by
  match csel with
  | none =>
    cases hcs; cases hm
    exact List.ext_getElem (by simp [selList]) fun i _ _ => by simp [selList]
  | some (.single c) =>
    obtain ⟨k, hk, ⟨⟩⟩ := Exc.bind_eq_ok.1 hcs
    exact pick_many (cs := [c]) (by rw [List.mapM_cons, hk]; rfl) ((metaSelect_single md c).symm.trans hm)
  | some (.basic a b c) =>
    obtain ⟨is, his, ⟨⟩⟩ := Exc.bind_eq_ok.1 hcs
    obtain ⟨is', his', ⟨⟩⟩ := Exc.bind_eq_ok.1 hm
    cases his.symm.trans his'
    exact filterMap_in_range (sliceIndices_lt a b c md.length is his)
  | some (.adv l) =>
    obtain ⟨cl, hcl, ⟨⟩⟩ := Exc.bind_eq_ok.1 hcs
    exact pick_many hcl hm

/-- the metadata list `m` is the metadata at the selected columns -/
def ColsMatch (md : List μ) (cs : Sel) (m : List μ) : Prop :=
  match cs with
  | .single k => ∃ x, m = [x] ∧ md[k]? = some x
  | .basic cl => m.map some = cl.map (fun c => md[c]?)
  | .adv cl => m.map some = cl.map (fun c => md[c]?)

/-- alignment of the column selection alone: what `metaSelect` returns is the
metadata at exactly the columns `selCols` hands to NumPy -/
theorem meta_matches_cols (md : List μ) (csel : Option ColSel) (cs : Sel) (m : List μ)
    (hcs : selCols md.length csel = .ok cs) (hm : metaSelect md csel = .ok m) :
    ColsMatch md cs m := by
  have h := metaSelect_cols hcs hm
  cases cs with
  | single k =>
    obtain ⟨x, hx, hk⟩ := List.map_eq_singleton_iff.1 h
    exact ⟨x, hx, hk.symm⟩
  | basic l => exact h
  | adv l => exact h

/-- What NumPy's broadcasting does to the columns: the result's cells come, position by position, from the
selected columns — or the column selector was a single column and every cell comes from it. -/
theorem npSelect_cols {rs cs : Sel} {sh : Shape} (h : npSelect rs cs = .ok sh) :
    sh.cols = selList cs ∨ ∃ c cells, selList cs = [c] ∧ sh = .vec cells ∧ ∀ p ∈ cells, p.2 = c := by
  cases rs <;> cases cs <;> simp only [npSelect] at h
  case single.single | basic.basic | basic.adv | adv.basic => cases h; exact .inl rfl
  case single.basic r cl | single.adv r cl => cases h; exact .inl ((List.map_map ..).trans (List.map_id' _))
  case basic.single rl c | adv.single rl c => cases h; exact .inr ⟨c, _, rfl, rfl, List.forall_mem_map.2 fun _ _ => rfl⟩
  case adv.adv rl cl =>
    split at h
    · rename_i hl
      cases h
      exact .inl (List.map_snd_zip (Nat.le_of_eq (eq_of_beq hl).symm))
    · split at h
      · cases h; exact .inl ((List.map_map ..).trans (List.map_id' _))
      · split at h
        · rename_i h1
          cases h
          match cl, h1 with
          | [c], _ => exact .inr ⟨c, _, rfl, rfl, List.forall_mem_map.2 fun _ _ => rfl⟩
        · nomatch h

/-- alignment given what NumPy selected and what the metadata bookkeeping produced -/
theorem aligned_of_parts {md m : List μ} {rs cs : Sel} {sh : Shape} (hsel : npSelect rs cs = .ok sh)
    (hm : m.map some = (selList cs).map (fun c => md[c]?)) (hns : ∀ r c, sh ≠ .scalar r c) :
    Aligned md ⟨sh, some m⟩ = true := by
  rcases npSelect_cols hsel with hc | ⟨c, cells, hc, rfl, hall⟩
  · rw [← hc] at hm
    cases sh with
    | scalar r c => exact absurd rfl (hns r c)
    | vec cells =>
      rw [Shape.cols, List.map_map] at hm
      simp only [Aligned, Bool.or_eq_true, beq_iff_eq]
      exact .inl hm
    | mat rl cl => simpa only [Aligned, beq_iff_eq, Shape.cols] using hm
  · rw [hc] at hm
    obtain ⟨x, rfl, hx⟩ := List.map_eq_singleton_iff.1 hm
    simp only [Aligned, Bool.or_eq_true, List.all_eq_true, beq_iff_eq]
    exact .inr fun p hp => (hall p hp).symm ▸ hx.symm

/-- the unchecked empty broadcast only arises from an advanced column index with at most one entry -/
theorem isEmptyBroadcast_adv {n : Nat} {rk : RowKey} {csel : Option ColSel} (h : isEmptyBroadcast n rk csel = true) :
    ∃ cl, csel = some (.adv cl) ∧ cl.length ≤ 1 := by
  unfold isEmptyBroadcast at h
  split at h <;> simp only [Bool.or_eq_true, Bool.and_eq_true, beq_iff_eq, decide_eq_true_eq, Bool.false_eq_true] at h
  · exact ⟨_, rfl, by omega⟩
  · exact ⟨_, rfl, by omega⟩

theorem aligned_vec_nil {md m : List μ} (h : m.length ≤ 1) : Aligned md ⟨.vec [], some m⟩ = true := by
  match m, h with
  | [], _ => rfl
  | [_], _ => simp [Aligned]

/-- **C04, main theorem.** For every sample (any number of events and
channels, names and metadata of equal length) and every key of the grammar —
rows by int, slice, int list, boolean mask or Ellipsis; channels by position,
negative position, name, slice, list/tuple mixing names and positions, or
Ellipsis — a successful `__getitem__` returns either a plain scalar (single
cell) or an object whose metadata is aligned with the provenance of its
values: exactly the metadata of the selected columns, in the selected order. -/
theorem getitem_aligned (names : List String) (md : List μ) (n : Nat) (rk : RowKey) (ck : ColKey)
    (r : Result μ) (hlen : names.length = md.length) (h : getitem names md n rk ck = .ok r) :
    Aligned md r = true := by
  obtain ⟨csel, hcsel, h⟩ := Exc.bind_eq_ok.1 h
  dsimp only at h
  split at h
  · nomatch h
  split at h
  · -- two advanced indices broadcasting to nothing: not bounds-checked, but at most one metadata entry
    rename_i heb
    obtain ⟨m, hm, ⟨⟩⟩ := Exc.bind_eq_ok.1 h
    obtain ⟨cl, rfl, hcl⟩ := isEmptyBroadcast_adv heb
    exact aligned_vec_nil (Exc.length_of_mapM_ok hm ▸ hcl)
  · obtain ⟨rs, hrs, h⟩ := Exc.bind_eq_ok.1 h
    obtain ⟨cs, hcs, h⟩ := Exc.bind_eq_ok.1 h
    obtain ⟨sh, hsh, h⟩ := Exc.bind_eq_ok.1 h
    split at h
    · cases h; rfl
    · rename_i hns
      obtain ⟨m, hm, ⟨⟩⟩ := Exc.bind_eq_ok.1 h
      exact aligned_of_parts hsh (metaSelect_cols (hlen ▸ hcs) hm) hns

/-- a channel atom that `_name_to_index` refuses makes the whole `__getitem__` fail with that error, before NumPy sees anything -/
theorem getitem_atom_error {names : List String} {a : ColAtom} {e : PyErr} (h : nameToIndex1 names a = .error e)
    (md : List μ) (n : Nat) (rk : RowKey) : getitem names md n rk (.atom a) = .error e := by
  rw [getitem, translateCol, h]; rfl

/-- Unknown channel names and out-of-range positions are refused. -/
theorem unknown_name_refused (names : List String) (md : List μ) (n : Nat) (rk : RowKey) (s : String)
    (h : names.idxOf? s = none) : getitem names md n rk (.atom (.name s)) = .error .ValueError :=
  getitem_atom_error (by rw [nameToIndex1, h]) ..

theorem out_of_range_refused (names : List String) (md : List μ) (n : Nat) (rk : RowKey) (i : Int)
    (h : ¬ (i < names.length ∧ i ≥ -(names.length : Int))) :
    getitem names md n rk (.atom (.pos i)) = .error .ValueError :=
  getitem_atom_error (by rw [nameToIndex1]; exact if_neg (by simpa using h)) ..

/-- Boolean and NumPy-integer channel indices are refused (never mis-aligned). -/
theorem bool_refused (names : List String) (md : List μ) (n : Nat) (rk : RowKey) (b : Bool) :
    getitem names md n rk (.atom (.bool b)) = .error .TypeError :=
  getitem_atom_error rfl ..

/-! Non-vacuity: a 4×3 sample, key `([0,2], ['c', 0])` -/
example : (getitem ["a", "b", "c"] [10, 20, 30] 4 (.ints [0, 2]) (.list [.name "c", .pos 0])).toOption.map (fun r => (r.shape, r.md))
    = some (.vec [(0, 2), (2, 0)], some [30, 10]) := by decide +kernel
example : (getitem ["a", "b", "c"] [10, 20, 30] 4 (.slice none none (some (-1))) (.slice (some (-1)) none (some (-2)))).toOption.map (fun r => (r.shape, r.md))
    = some (.mat [3, 2, 1, 0] [2, 0], some [30, 10]) := by decide +kernel

end FlowCal.C04
