import Properties.C07b
import FlowCalModel.Laws
import FlowCalModel.GeneratedExpr
/-!
# C07 — the laws found in the source are strictly increasing, hence commute with the saturation gate
-/
namespace FlowCal.C07
open FlowCal FlowCal.Logicle

theorem laws_rfiLog_eq (a0 a1 r x : ℝ) : Laws.rfiLog a0 a1 r x = rfiLog a0 a1 r x := rfl
theorem laws_rfiLin_eq (g x : ℝ) : Laws.rfiLin g x = rfiLin g x := rfl

/-- the logarithmic law *as written in the source* is strictly increasing for a genuine log amplifier -/
theorem source_rfi_log_strictMono (a0 a1 r : ℝ) (h0 : 0 < a0) (h1 : 0 < a1) (hr : 0 < r) :
    StrictMono (GeneratedExpr.src_rfi_log a0 a1 r) :=
  rfiLog_strictMono a0 a1 r h0 h1 hr

/-- the linear law *as written in the source* is strictly increasing for a positive gain -/
theorem source_rfi_lin_strictMono (g : ℝ) (hg : 0 < g) : StrictMono (GeneratedExpr.src_rfi_lin g) :=
  rfiLin_strictMono g hg

/-- converting a channel with the source's logarithmic law (events and limits alike) leaves the saturation gate unchanged -/
theorem gate_comm_source_log (s : FlowCal.Transform.Ranged ℝ) (c : Nat) (a0 a1 r : ℝ) (h0 : 0 < a0) (h1 : 0 < a1) (hr : 0 < r) :
    FlowCal.Transform.gateRows (FlowCal.Transform.convert c (GeneratedExpr.src_rfi_log a0 a1 r) s) = FlowCal.Transform.gateRows s :=
  gate_comm_rfiLog s c a0 a1 r h0 h1 hr

theorem gate_comm_source_lin (s : FlowCal.Transform.Ranged ℝ) (c : Nat) (g : ℝ) (hg : 0 < g) :
    FlowCal.Transform.gateRows (FlowCal.Transform.convert c (GeneratedExpr.src_rfi_lin g) s) = FlowCal.Transform.gateRows s :=
  gate_comm_rfiLin s c g hg

end FlowCal.C07
