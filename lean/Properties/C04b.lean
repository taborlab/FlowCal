import Properties.C04
/-!
# C04 (continued) — chains of indexing expressions, and assignment
-/
namespace FlowCal.C04
open FlowCal.Index FlowCal.Py

variable {μ : Type} [DecidableEq μ]
set_option linter.unusedSectionVars false

/-- what alignment of a 2-D result means, unfolded: one metadata entry per column, each the
entry of the source column, and every source column exists -/
theorem aligned_mat {md m : List μ} {rs cs : List Nat} (h : Aligned md ⟨.mat rs cs, some m⟩ = true) :
    m.length = cs.length ∧ ∀ j (hj : j < cs.length), ∃ (hm : j < m.length) (hc : cs[j] < md.length), m[j] = md[cs[j]] := by
  have h' : m.map some = cs.map (fun c => md[c]?) := by simpa only [Aligned, beq_iff_eq] using h
  have hl : m.length = cs.length := by simpa only [List.length_map] using congrArg List.length h'
  refine ⟨hl, fun j hj => ?_⟩
  have hm : j < m.length := hl ▸ hj
  have e := List.getElem_of_eq h' (List.length_map some ▸ hm)
  rw [List.getElem_map, List.getElem_map] at e
  obtain ⟨hc, e⟩ := List.getElem?_eq_some_iff.1 e.symm
  exact ⟨hm, hc, e.symm⟩

/-- the sub-sample a 2-D result is: names and metadata of the selected columns, `rs.length` events -/
def subNames (names : List String) (cs : List Nat) : List String := cs.map (fun c => names.getD c "")

/-- **Chains of indexing expressions stay aligned.**  If a first key yields a 2-D result (rows `rs`, columns
`cs`, metadata `m`) and a second key is applied to that result, the metadata of the second result is the
*original* sample's metadata at the composed source columns `cs[cs2[j]]` — for any two keys of the
grammar, hence by repetition for chains of any length. -/
theorem chain_aligned (names : List String) (md : List μ) (n : Nat) (rk1 rk2 : RowKey) (ck1 ck2 : ColKey)
    (rs cs rs2 cs2 : List Nat) (m m2 : List μ) (hlen : names.length = md.length)
    (h1 : getitem names md n rk1 ck1 = .ok ⟨.mat rs cs, some m⟩)
    (h2 : getitem (subNames names cs) m rs.length rk2 ck2 = .ok ⟨.mat rs2 cs2, some m2⟩) :
    m2.length = cs2.length ∧
    ∀ j (hj : j < cs2.length), ∃ (hm : j < m2.length) (h1c : cs2[j] < cs.length) (h2c : cs[cs2[j]] < md.length),
      m2[j] = md[cs[cs2[j]]] := by
  have a1 := aligned_mat (getitem_aligned names md n rk1 ck1 _ hlen h1)
  have hl2 : (subNames names cs).length = m.length := by simp [subNames, a1.1]
  have a2 := aligned_mat (getitem_aligned (subNames names cs) m rs.length rk2 ck2 _ hl2 h2)
  refine ⟨a2.1, fun j hj => ?_⟩
  obtain ⟨hm, hc, he⟩ := a2.2 j hj
  have h1c : cs2[j] < cs.length := by rw [← a1.1]; exact hc
  obtain ⟨hm1, hc1, he1⟩ := a1.2 cs2[j] h1c
  exact ⟨hm, h1c, hc1, by rw [he, he1]⟩

/-! ## Assignment writes exactly the addressed cells -/

/-- cells addressed by a key: the provenance of what `__getitem__` with the same key returns -/
def Shape.cells : Shape → List (Nat × Nat)
  | .scalar r c => [(r, c)]
  | .vec cs => cs
  | .mat rs cs => rs.flatMap (fun r => cs.map (fun c => (r, c)))

/-- `ndarray.__setitem__` with a scalar value on the translated key -/
def writeCells {V : Type} (cells : List (Nat × Nat)) (v : V) (data : List (List V)) : List (List V) :=
  data.mapIdx (fun r row => row.mapIdx (fun c x => if (r, c) ∈ cells then v else x))

theorem writeCells_spec {V : Type} (cells : List (Nat × Nat)) (v : V) (data : List (List V)) (r c : Nat)
    (hr : r < data.length) (hc : c < data[r].length) :
    ((writeCells cells v data)[r]'(by simp [writeCells]; exact hr))[c]'(by simp [writeCells]; exact hc) =
      if (r, c) ∈ cells then v else data[r][c] := by
  simp [writeCells]

theorem writeCells_shape {V : Type} (cells : List (Nat × Nat)) (v : V) (data : List (List V)) :
    (writeCells cells v data).map List.length = data.map List.length := by
  apply List.ext_getElem <;> simp [writeCells]

end FlowCal.C04
