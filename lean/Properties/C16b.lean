import Properties.C16
import Properties.FileStages
import FlowCalModel.Generated
/-!
# C16 (continued) — file-level consequences: TEXT-like segments that extend beyond the end of the file are refused,
and reading a segment does not depend on bytes after it
-/
namespace FlowCal.C16
open FlowCal.Data FlowCal.Py FlowCal.File

/-- a read that lies inside the first `n` bytes sees the same bytes in the truncated file -/
theorem readAt_take (file : Bytes) (n : Nat) (pos cnt : Int) (h0 : 0 ≤ pos) (hc : 0 ≤ cnt) (hin : pos + cnt ≤ n) :
    readAt (file.take n) pos cnt = readAt file pos cnt := by
  rw [readAt_of_nonneg _ _ _ h0 hc, readAt_of_nonneg _ _ _ h0 hc, take_drop_take _ _ _ _ (by omega)]

/-- **A TEXT-like segment that extends beyond the end of the file is refused** (the repaired short-read check):
with `0 ≤ begin ≤ end` and fewer than `end+1` bytes in the file, `read_fcs_text_segment` raises instead of parsing
the bytes that happen to be there. -/
theorem readTextBody_beyond_eof (file : Bytes) (b e : Int) (d : Option Nat) (supp : Bool)
    (hb : 0 ≤ b) (hbe : b ≤ e) (hshort : (file.length : Int) ≤ e) :
    ∃ err, readTextBody file b e d supp = .error err := by
  have hlen : (((file.drop b.toNat).take (e + 1 - b).toNat).length : Int) < e + 1 - b := by
    have := List.length_take_le' (e + 1 - b).toNat (file.drop b.toNat)
    rw [List.length_drop] at this
    omega
  simp only [readTextBody, readAt_of_nonneg file b (e + 1 - b) hb (by omega), hlen, if_true]
  exact ⟨_, rfl⟩

theorem readTextSeg_beyond_eof (file : Bytes) (b e : Int) (d : Option (Option Nat)) (supp : Bool)
    (hb : 0 ≤ b) (hbe : b ≤ e) (hshort : (file.length : Int) ≤ e) :
    ∃ err, readTextSeg file b e d supp = .error err := by
  unfold readTextSeg
  cases resolveDelim file b d supp with
  | error err => exact ⟨err, rfl⟩
  | ok dd => exact readTextBody_beyond_eof file b e dd supp hb hbe hshort

/-- reading the body of a TEXT-like segment that lies entirely inside the first `n` bytes gives the same
result on the file cut at `n` -/
theorem readTextBody_take (file : Bytes) (n : Nat) (b e : Int) (d : Option Nat) (supp : Bool)
    (hb : 0 ≤ b) (hbe : b ≤ e + 1) (hin : e + 1 ≤ n) :
    readTextBody (file.take n) b e d supp = readTextBody file b e d supp := by
  unfold readTextBody
  rw [readAt_take file n b (e + 1 - b) hb (by omega) (by omega)]

/-- the HEADER is read from the first 58 bytes only -/
theorem parseHeader_take (file : Bytes) (n : Nat) (h : 58 ≤ n) : parseHeader (file.take n) = parseHeader file := by
  unfold parseHeader
  have hf (i : Nat) (hi : i ≤ 5) := take_drop_take file n (10 + 8 * i) 8 (by omega)
  have hv : (file.take n).take 10 = file.take 10 := by rw [List.take_take, Nat.min_eq_left (by omega)]
  simp only [hf 0 (by omega), hf 1 (by omega), hf 2 (by omega), hf 3 (by omega), hf 4 (by omega), hf 5 (by omega), hv]

/-- **A file cut before the end of its primary TEXT segment cannot be loaded** (whatever the HEADER says the
offsets are, as long as they are the intact file's): combined with `truncated_data_fails` this covers every cut
up to the end of DATA for files whose segments are in HEADER–TEXT–DATA order. -/
theorem cut_inside_text_fails (file : Bytes) (n : Nat) (h : Header) (h58 : 58 ≤ n)
    (hh : parseHeader file = .ok h) (hb : 0 ≤ h.textBegin) (hbe : h.textBegin ≤ h.textEnd) (hcut : (n : Int) ≤ h.textEnd) :
    ∃ err, loadFile (file.take n) = .error err := by
  unfold loadFile
  rw [parseHeader_take file n h58, hh]
  obtain ⟨err, he⟩ := readTextSeg_beyond_eof (file.take n) h.textBegin h.textEnd none false hb hbe
    (by simp only [List.length_take]; omega)
  simp only [he]
  exact ⟨err, rfl⟩

/-- the keywords the model treats as required are the ones `FCSFile.__init__` indexes in the source now (regenerated on every run) -/
theorem required_keywords_match_source : Generated.fileKeywords = FlowCal.File.requiredKeywords := rfl

end FlowCal.C16
