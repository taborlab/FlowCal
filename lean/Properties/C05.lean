import FlowCalModel.Density
import FlowCalModel.Generated
/-!
# C05 — The density gate keeps the densest whole bins holding the requested share
-/
namespace FlowCal.C05
open FlowCal.Density

theorem sum_take_le (cs : List Nat) (k : Nat) : (cs.take k).sum ≤ cs.sum := by
  have := congrArg List.sum (List.take_append_drop k cs)
  rw [List.sum_append_nat] at this; omega

/-- `acceptCount cs t` is the least number of leading bins whose counts reach `t` (the `cumsum(svH) >= n` of the source), and all
bins if they do not; the statements about the accepted prefix below all come from this -/
theorem acceptCount_le_iff (cs : List Nat) {t k : Nat} (ht : 0 < t) :
    acceptCount cs t ≤ k ↔ cs.length ≤ k ∨ t ≤ (cs.take k).sum := by
  induction cs generalizing t k with
  | nil => simp [acceptCount]
  | cons c cs ih =>
    simp only [acceptCount]
    cases k with
    | zero => split <;> simp <;> omega
    | succ k =>
      simp only [List.take_succ_cons, List.sum_cons, List.length_cons]
      split
      · omega
      · -- without the first bin: one bin fewer to accept, `c` events fewer to reach
        rw [Nat.add_comm 1, Nat.add_le_add_iff_right, Nat.add_le_add_iff_right, ih (by omega), Nat.sub_le_iff_le_add']

/-- **Lower bound**: if the requested number does not exceed the events in the grid,
the accepted bins hold at least that many events. -/
theorem lower_bound (cs : List Nat) (t : Nat) (h : t ≤ cs.sum) :
    t ≤ (cs.take (acceptCount cs t)).sum := by
  rcases Nat.eq_zero_or_pos t with rfl | ht
  · exact Nat.zero_le _
  · exact ((acceptCount_le_iff cs ht).mp (Nat.le_refl _)).elim (fun hl => by rwa [List.take_of_length_le hl]) id

/-- **Minimality**: dropping the last (least dense) accepted bin leaves fewer than `t` events. -/
theorem minimal (cs : List Nat) (t : Nat) (ht : 0 < t) :
    (cs.take (acceptCount cs t - 1)).sum < t := by
  refine Nat.lt_of_not_le fun hh => ?_
  have h0 : acceptCount cs t = 0 := by have := (acceptCount_le_iff cs ht).mpr (.inr hh); omega
  simp [h0] at hh; omega

/-- the last accepted bin is not empty -/
theorem last_accepted_nonempty (cs : List Nat) (t : Nat) (ht : 0 < t) (h : t ≤ cs.sum) :
    (cs.take (acceptCount cs t - 1)).sum < (cs.take (acceptCount cs t)).sum :=
  Nat.lt_of_lt_of_le (minimal cs t ht) (lower_bound cs t h)

/-- **Monotone in the target** (hence in the gate fraction): a larger target accepts a
superset — the accepted bins are a prefix of the density order in both cases. -/
theorem monotone_target (cs : List Nat) (t t' : Nat) (h : t ≤ t') :
    acceptCount cs t ≤ acceptCount cs t' := by
  rcases Nat.eq_zero_or_pos t with rfl | ht
  · -- `t = 0` is outside the characterisation: the first bin, if there is one, is accepted whatever it holds
    cases cs with
    | nil => exact Nat.le_refl _
    | cons c cs => simp only [acceptCount, ge_iff_le, Nat.zero_le, if_true]; split <;> omega
  · exact (acceptCount_le_iff cs ht).mpr
      (((acceptCount_le_iff cs (Nat.lt_of_lt_of_le ht h)).mp (Nat.le_refl _)).imp_right (Nat.le_trans h))

theorem acceptCount_le (cs : List Nat) (t : Nat) : acceptCount cs t ≤ cs.length :=
  Nat.le_trans (monotone_target cs t (t + 1) (Nat.le_succ t)) ((acceptCount_le_iff cs t.succ_pos).mpr (.inl (Nat.le_refl _)))

theorem none_at_zero (cs : List Nat) : accepted cs 0 = 0 := rfl

/-- at the full target every non-empty bin up to the last non-empty one is accepted: all in-grid events are kept -/
theorem all_at_total (cs : List Nat) (h : 0 < cs.sum) :
    (cs.take (accepted cs cs.sum)).sum = cs.sum := by
  rw [accepted, if_neg (by omega)]
  exact Nat.le_antisymm (sum_take_le cs _) (lower_bound cs cs.sum (Nat.le_refl _))

/-- **Density ordered**: if the bins are listed by non-increasing density, no dropped bin is denser than an accepted one. -/
theorem density_ordered (ds : List Int) (k : Nat) (hs : ds.Pairwise (· ≥ ·)) :
    ∀ a ∈ ds.take k, ∀ b ∈ ds.drop k, b ≤ a := by
  rw [← List.take_append_drop k ds, List.pairwise_append] at hs
  exact hs.2.2

/-- **Permutation invariance**: the histogram, hence the accepted bins and the fate of every
event, does not depend on the order of the events. -/
theorem hist_perm {β : Type} [DecidableEq β] (bins : List β) (ev ev' : List (Option β)) (h : ev.Perm ev') :
    hist bins ev = hist bins ev' :=
  List.map_congr_left fun b _ => h.count_eq (some b)

/-- **Atomicity / outside never kept / replay**: the event mask is a function of the event's bin
and of the accepted set only; events outside the grid are never kept. -/
theorem eventMask_spec {β : Type} [DecidableEq β] (acc : List β) (ev : List (Option β)) (i : Nat) (hi : i < ev.length) :
    (eventMask acc ev)[i]'(by simp [eventMask]; exact hi) =
      (match ev[i] with | none => false | some b => acc.contains b) :=
  List.getElem_map ..

theorem eventMask_perm {β : Type} [DecidableEq β] (acc : List β) (ev ev' : List (Option β)) (h : ev.Perm ev') :
    (eventMask acc ev).Perm (eventMask acc ev') :=
  h.map _

/-! Non-vacuity -/
example : acceptCount [5, 3, 3, 0, 1] 6 = 2 ∧ acceptCount [5, 3, 3, 0, 1] 5 = 1 ∧ acceptCount [5, 3, 3, 0, 1] 12 = 5 := by decide +kernel
example : validGate [5, 3, 3, 0, 1] [9, 7, 7, 2, 1] [true, true, false, false, false] 6 = (true, true, true) := by decide +kernel
example : validGate [5, 3, 3, 0, 1] [9, 7, 7, 2, 1] [true, false, true, false, false] 6 = (true, true, true) := by decide +kernel   -- tie at the cut: either is valid
example : validGate [5, 3, 3, 0, 1] [9, 7, 7, 2, 1] [true, true, true, false, false] 6 = (true, false, true) := by decide +kernel

/-- the bin-selection statements of `gate.density2d` in the source now (regenerated on every run) are the ones the model stands for -/
theorem selection_statements_match_source : Generated.densitySelection = FlowCal.Density.sourceSpec := rfl

end FlowCal.C05
