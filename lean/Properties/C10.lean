import FlowCalModel.Excel
import FlowCalModel.Generated
import Properties.ExceptLemmas
/-!
# C10 — Excel results equal the documented library steps applied by hand
-/
namespace FlowCal.C10
open FlowCal.Excel

/-- **Units are case- and whitespace-insensitive**, with exactly the documented spellings. -/
theorem classify_spellings :
    classify ['M','E','F'] = .mef ∧ classify [' ','m','e','f',' '] = .mef ∧ classify ['M','e','f'] = .mef ∧
    classify ['R','F','I'] = .rfi ∧ classify ['r','f','i'] = .rfi ∧ classify ['a','.','u','.'] = .au ∧ classify ['A','.','U','.'] = .au ∧
    classify ['a','u'] = .au ∧ classify ['A','U'] = .au ∧ classify ['C','h','a','n','n','e','l'] = .channel ∧
    classify ['C','H','A','N','N','E','L'] = .channel ∧ classify ['c','h','a','n','n','e','l',' '] = .channel ∧
    classify ['f','u','r','l','o','n','g','s'] = .other ∧ classify [] = .other := by decide +kernel

/-- per-channel conversions: nothing for channel numbers, RFI for `RFI`/`a.u.`, RFI then the beads' calibration for `MEF` -/
theorem channelSteps_spec (c : String) (u : List Char) :
    channelSteps c u = (match classify u with
      | .channel => .ok []
      | .rfi => .ok [.toRfi [c]]
      | .au => .ok [.toRfi [c]]
      | .mef => .ok [.toRfi [c], .toMef c]
      | .other => .error .unitsNotRecognized) := rfl

/-- **Shape of the plan**: a healthy row is processed by `to_rfi` of the scatter channels, the per-channel
conversions of the reported channels in the instrument's order, the 250/100 trim, saturation removal in the
scatter and reported channels iff the data are integers, and the density gate on the scatter channels —
in that order, each exactly once. -/
theorem plan_shape (f : RowFacts) (plan : List Step) (h : samplePlan f = .ok plan) :
    ∃ conv : List (List Step),
      (reportChannels f).mapM (fun cu => channelSteps cu.1 cu.2) = .ok conv ∧
      plan = [Step.toRfi [f.fsc, f.ssc]] ++ conv.flatten ++ [Step.startEnd 250 100] ++
        (if f.integerData then [Step.highLow ([f.fsc, f.ssc] ++ (reportChannels f).map (·.1))] else []) ++
        [Step.density2d [f.fsc, f.ssc]] := by
  obtain ⟨conv, hconv, ⟨⟩⟩ := Exc.bind_eq_ok.1 h
  exact ⟨conv, hconv, rfl⟩

/-- channels whose units cell is empty are not reported (left alone); reported ones come from the instrument's list -/
theorem reportChannels_mem (f : RowFacts) (c : String) (u : List Char) (h : (c, u) ∈ reportChannels f) :
    c ∈ f.flChannels ∧ f.units.lookup c = some (some u) := by
  obtain ⟨c', hc', hm⟩ := List.mem_filterMap.1 h
  split at hm
  · cases hm; exact ⟨hc', ‹_›⟩
  · nomatch hm

/-! Non-vacuity: one MEF, one a.u., one empty, one Channel column -/
example : samplePlan ⟨"FSC", "SSC", ["FL1", "FL2", "FL3", "FL4"], [("FL2", some ['a','.','u','.']), ("FL1", some [' ','M','E','F']), ("FL3", none), ("FL4", some ['C','h','a','n','n','e','l'])], true⟩
    = .ok [.toRfi ["FSC", "SSC"], .toRfi ["FL1"], .toMef "FL1", .toRfi ["FL2"], .startEnd 250 100,
           .highLow ["FSC", "SSC", "FL1", "FL2", "FL4"], .density2d ["FSC", "SSC"]] := by decide +kernel
example : samplePlan ⟨"FSC", "SSC", ["FL1"], [("FL1", some ['f','u','r'])], false⟩ = .error .unitsNotRecognized := by decide +kernel

/-- the library calls of `process_samples_table`, their constant arguments and guards, as found in the source now (regenerated on
every run), are the ones the plan model stands for -/
theorem pipeline_matches_source : Generated.samplePipelineCalls = pipelineSpec := rfl

/-- every per-channel result column is filled by the library statistic of the same name, geometric ones on the positive events -/
theorem stat_functions_match_source : Generated.statColumnFunctions = statSpec := rfl

theorem positive_rule_matches_source : Generated.positiveEventsRule = positiveRuleSpec := rfl

end FlowCal.C10
