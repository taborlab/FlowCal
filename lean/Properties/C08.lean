import FlowCalModel.Gate
import Mathlib.Tactic.Ring
/-!
# C08 — Every gate returns exactly its documented predicate, applied as a mask
-/
namespace FlowCal.C08
open FlowCal.Gate FlowCal.Py

/-- clamp of a requested count -/
def cl (k : Int) : Nat := if k < 0 then 0 else k.toNat

theorem startEnd_eq (n : Nat) (s e : Int) : startEnd n s e =
    if n < cl s + cl e then .error .ValueError
    else .ok ((List.range n).map fun i => decide (cl s ≤ i) && (cl e == 0 || decide (i < n - cl e))) := rfl

/-- **start/end gate**: refused iff more events are to be dropped than exist; otherwise
the mask has one entry per event and keeps event `i` iff `s ≤ i < n - e` — it
drops the first `s` and last `e` events and nothing else. -/
theorem startEnd_spec (n : Nat) (s e : Int) :
    (n < cl s + cl e → startEnd n s e = .error .ValueError) ∧
    (cl s + cl e ≤ n → ∃ m, startEnd n s e = .ok m ∧ m.length = n ∧
      ∀ i (hi : i < m.length), m[i] = true ↔ (cl s ≤ i ∧ i < n - cl e)) := by
  rw [startEnd_eq]
  refine ⟨fun h => if_pos h, fun h => ⟨_, if_neg (Nat.not_lt.2 h), by simp, fun i hi => ?_⟩⟩
  simp only [List.length_map, List.length_range] at hi
  simp only [List.getElem_map, List.getElem_range, Bool.and_eq_true, Bool.or_eq_true, decide_eq_true_eq, beq_iff_eq]
  omega

/-- the number of kept events is exactly `n - s - e` -/
theorem startEnd_count (n : Nat) (s e : Int) (m : List Bool) (h : startEnd n s e = .ok m) :
    m.length = n := by
  rw [startEnd_eq] at h
  split at h <;> cases h
  simp

/-- **high/low gate**: an event is kept iff it is strictly between the low and
high thresholds in every chosen channel (absent threshold = no limit). -/
theorem highLow_spec {K : Type} [LT K] [DecidableLT K] (rows : List (List K)) (high low : List (Option K))
    (i : Nat) (hi : i < rows.length) :
    (highLow rows high low)[i]'(by simp [highLow]; exact hi) = true ↔
      ∀ p ∈ (rows[i]).zip (high.zip low),
        (∀ hv, p.2.1 = some hv → p.1 < hv) ∧ (∀ lv, p.2.2 = some lv → lv < p.1) := by
  simp only [highLow, List.getElem_map, List.all_eq_true, Bool.and_eq_true]
  refine forall₂_congr fun ⟨x, h, l⟩ _ => and_congr ?_ ?_
  · cases h <;> simp
  · cases l <;> simp

/-- masks have one entry per event, so `gated = input[mask]` is well defined -/
theorem highLow_length {K : Type} [LT K] [DecidableLT K] (rows : List (List K)) (high low : List (Option K)) :
    (highLow rows high low).length = rows.length := List.length_map _

/-- the gated output is a sub-list of the input in the original order -/
theorem applyMask_sublist {α : Type} (rows : List α) (mask : List Bool) : (applyMask rows mask).Sublist rows := by
  induction rows generalizing mask with
  | nil => exact List.nil_sublist _
  | cons r rows ih =>
    cases mask with
    | nil => exact List.nil_sublist _
    | cons m mask =>
      -- `applyMask (r :: rows) (m :: mask)` reduces to `applyMask rows mask`, with `r` in front when `m` is `true`
      cases m
      · exact (ih mask).cons r
      · exact (ih mask).cons_cons r

/-! ## Ellipse: the mask predicate and the contour describe the same ellipse -/

variable {F : Type} [Field F]

/-- **Every contour point lies exactly on the boundary of the masked region**: for any
centre, non-zero semi-axes, rotation `(c, s)` with `c² + s² = 1` and any
parameter point with `ct² + st² = 1`, the quadratic form the mask uses equals 1
at the contour point (the mask keeps `form ≤ 1`). -/
theorem contour_on_ellipse (cx cy a b c s ct st : F) (ha : a ≠ 0) (hb : b ≠ 0)
    (hrot : c * c + s * s = 1) (hpar : ct * ct + st * st = 1) :
    ellipseForm cx cy a b c s (contourPoint cx cy a b c s ct st).1 (contourPoint cx cy a b c s ct st).2 = 1 := by
  -- rotating by `(c, s)` and back multiplies by `c² + s²`: the rotated coordinates of the contour point are `(a ct, b st)`
  have hx : ∀ u v : F, (u * c - v * s) * c + (u * s + v * c) * s = u * (c * c + s * s) := fun u v => by ring
  have hy : ∀ u v : F, (u * s + v * c) * c - (u * c - v * s) * s = v * (c * c + s * s) := fun u v => by ring
  simp only [ellipseForm, contourPoint, add_sub_cancel_right, hx, hy, hrot, mul_one, mul_div_cancel_left₀ _ ha,
    mul_div_cancel_left₀ _ hb, hpar]

/-- the form is invariant under translating data and centre together, and is `0` exactly at the centre -/
theorem form_at_centre (cx cy a b c s : F) : ellipseForm cx cy a b c s cx cy = 0 := by
  simp only [ellipseForm, sub_self, zero_mul, add_zero, zero_div]

/-- unrotated case: the textbook ellipse equation -/
theorem form_unrotated (cx cy a b x y : F) :
    ellipseForm cx cy a b 1 0 x y = ((x - cx) / a) * ((x - cx) / a) + ((y - cy) / b) * ((y - cy) / b) := by
  simp only [ellipseForm, mul_one, mul_zero, add_zero, sub_zero]

/-! Non-vacuity -/
example : startEnd 10 2 3 = .ok [false, false, true, true, true, true, true, false, false, false] := by decide +kernel
example : startEnd 4 3 2 = .error .ValueError := by decide +kernel
example : startEnd 3 (-5) 0 = .ok [true, true, true] := by decide +kernel
example : highLow [[1, 5], [0, 5], [3, 9], [3, 10]] [some (4 : Int), some 10] [some 0, none] = [true, false, true, false] := by decide +kernel

end FlowCal.C08
