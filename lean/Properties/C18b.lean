import Properties.C18
import Mathlib.Topology.Order.IntermediateValue
import Mathlib.Analysis.SpecialFunctions.Log.Basic
/-!
# C18 (continued) — the parameter `p` of the logicle transform exists and is unique
-/
namespace FlowCal.C18
open FlowCal.Logicle

theorem Wf_continuousOn : ContinuousOn (Wf : ℝ → ℝ) (Set.Ici 1) := by
  show ContinuousOn (fun p : ℝ => 2 * p / (p + 1) * Real.logb 10 p) _
  fun_prop (disch := intro x (hx : 1 ≤ x); have := one_pos.trans_le hx; positivity)

/-- for `p ≥ 1`: `log10 p ≤ Wf p ≤ 2·log10 p` (the factor `2p/(p+1)` lies in `[1, 2)`) -/
theorem Wf_bounds (p : ℝ) (hp : 1 ≤ p) : Real.logb 10 p ≤ Wf p ∧ Wf p ≤ 2 * Real.logb 10 p :=
  ⟨le_mul_of_one_le_left (log10_nonneg hp) (Wf_factor_bounds hp).1,
   mul_le_mul_of_nonneg_right (Wf_factor_bounds hp).2 (log10_nonneg hp)⟩

/-- **Existence and uniqueness of `p`**: for every `W ≥ 0` there is exactly one `p ≥ 1` with
`W = 2p·log10(p)/(p+1)`, so "p solving the equation" in the definition of the logicle transform is well defined. -/
theorem exists_unique_p (W : ℝ) (hW : 0 ≤ W) : ∃! p : ℝ, 1 ≤ p ∧ Wf p = W := by
  have h1 : 1 ≤ (pow10 W : ℝ) := pow10_zero.symm.trans_le (pow10_strictMono.monotone hW)
  -- `Wf` is continuous and passes `W` on `[1, 10^W]`: `Wf 1 = 0 ≤ W = log10 (10^W) ≤ Wf (10^W)`
  obtain ⟨p, hp, hpW⟩ := intermediate_value_Icc h1 (Wf_continuousOn.mono fun x hx => hx.1)
    ⟨Wf_one.trans_le hW, (log10_pow10 W).symm.trans_le (Wf_bounds _ h1).1⟩
  exact ⟨p, ⟨hp.1, hpW⟩, fun q hq => (p_unique W p q hp.1 hq.1 hpW hq.2).symm⟩

/-- **the bracket of the fallback solver** (fix 16): the solution of `Wf p = W`, `p ≥ 1`, lies in `[10^(W/2), 10^W]` -/
theorem p_bracket (W p : ℝ) (hp : 1 ≤ p) (h : Wf p = W) : (10 : ℝ) ^ (W / 2) ≤ p ∧ p ≤ (10 : ℝ) ^ W := by
  subst h
  obtain ⟨hlo, hhi⟩ := Wf_bounds p hp
  have e : (pow10 (Real.logb 10 p) : ℝ) = p := pow10_log10 (one_pos.trans_le hp)
  exact ⟨(pow10_strictMono.monotone ((div_le_iff₀' two_pos).2 hhi)).trans_eq e,
    e.symm.trans_le (pow10_strictMono.monotone hlo)⟩

end FlowCal.C18
