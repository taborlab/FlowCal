import Properties.C18
import Mathlib.Topology.Order.IntermediateValue
import Mathlib.Analysis.SpecialFunctions.Pow.Continuity
/-!
# C18 — the logicle scale is onto: every data value has a display position
-/
namespace FlowCal.C18
open FlowCal.Logicle

theorem logicle_continuous (T M W p : ℝ) (_hp : 0 < p) : Continuous (logicle T M W p) := by
  have c : Continuous (pow10 : ℝ → ℝ) := Real.continuous_const_rpow (by norm_num)
  unfold logicle
  fun_prop

/-- right of `W` the scale grows at least like `10^(s-W)` … -/
theorem le_logicle_right (T M W p u : ℝ) (hT : 0 < T) (hp : 0 < p) (hu : 0 ≤ u) :
    T * pow10 (-(M - W)) * (pow10 u - 1) ≤ logicle T M W p (W + u) := by
  have h : (pow10 (-u / p) : ℝ) ≤ 1 := pow10_le_one (div_nonpos_of_nonpos_of_nonneg (neg_nonpos.2 hu) hp.le)
  rw [logicle_split, add_sub_cancel_left]
  exact mul_le_mul_of_nonneg_left (le_add_of_nonneg_right (mul_nonneg (mul_self_nonneg p) (sub_nonneg.2 h)))
    (mul_pos hT (pow10_pos _)).le

/-- … and left of `W` it falls at least like `-p²·10^((W-s)/p)` -/
theorem logicle_left_le (T M W p u : ℝ) (hT : 0 < T) (hp : 0 < p) (hu : 0 ≤ u) :
    logicle T M W p (W - p * u) ≤ -(T * pow10 (-(M - W)) * (p * p) * (pow10 u - 1)) := by
  have h : (pow10 (-(p * u)) : ℝ) ≤ 1 := pow10_le_one (neg_nonpos.2 (mul_nonneg hp.le hu))
  rw [logicle_split, sub_sub_cancel_left, neg_neg, mul_div_cancel_left₀ _ hp.ne']
  calc _ ≤ T * pow10 (-(M - W)) * (p * p * (1 - pow10 u)) :=
        mul_le_mul_of_nonneg_left (add_le_of_nonpos_left (sub_nonpos.2 h)) (mul_pos hT (pow10_pos _)).le
    _ = _ := by ring

/-- `k·(10^u - 1)`, `u ≥ 0`, takes every value `z ≥ 0` -/
theorem exists_pow10_sub_one {k z : ℝ} (hk : 0 < k) (hz : 0 ≤ z) : ∃ u : ℝ, 0 ≤ u ∧ k * (pow10 u - 1) = z := by
  have h1 : 1 ≤ z / k + 1 := le_add_of_nonneg_left (div_nonneg hz hk.le)
  exact ⟨log10 (z / k + 1), log10_nonneg h1,
    by rw [pow10_log10 (one_pos.trans_le h1), add_sub_cancel_right, mul_div_cancel₀ _ hk.ne']⟩

/-- **Onto**: every real data value is the image of a display position. -/
theorem logicle_surjective (T M W p : ℝ) (hT : 0 < T) (hp : 0 < p) : Function.Surjective (logicle T M W p) := by
  intro y
  have hc : 0 < T * pow10 (-(M - W)) := mul_pos hT (pow10_pos _)
  -- continuous, and by the two estimates below `-|y|` somewhere left of `W` and above `|y|` somewhere right of it
  apply mem_range_of_exists_le_of_exists_ge (logicle_continuous T M W p hp)
  · obtain ⟨u, hu, e⟩ := exists_pow10_sub_one (mul_pos hc (mul_pos hp hp)) (abs_nonneg y)
    exact ⟨W - p * u, (e ▸ logicle_left_le T M W p u hT hp hu).trans (neg_abs_le y)⟩
  · obtain ⟨u, hu, e⟩ := exists_pow10_sub_one hc (abs_nonneg y)
    exact ⟨W + u, (le_abs_self y).trans (e ▸ le_logicle_right T M W p u hT hp hu)⟩

/-- **The logicle scale is a bijection** between display positions and data values, for every `T > 0`
and `p > 0` (in particular for every `p ≥ 1` the `W`-equation yields). -/
theorem logicle_bijective (T M W p : ℝ) (hT : 0 < T) (hp : 0 < p) : Function.Bijective (logicle T M W p) :=
  ⟨logicle_injective T M W p hT hp, logicle_surjective T M W p hT hp⟩

/-- its inverse (what `_LogicleTransform.inverted()` approximates by interpolation) exists, is unique and is strictly increasing -/
theorem logicle_inverse_strictMono (T M W p : ℝ) (hT : 0 < T) (hp : 0 < p) (g : ℝ → ℝ)
    (hg : ∀ s, g (logicle T M W p s) = s) : StrictMono g :=
  (logicle_surjective T M W p hT hp).forall₂.2 fun s t h => by
    rw [hg, hg]
    exact (logicle_strictMono T M W p hT hp).lt_iff_lt.1 h

end FlowCal.C18
