import FlowCalModel.Pickle
/-!
# C20 — A sample survives copying, viewing and pickling in any analysis state

The three operations interpret field tables regenerated from /repo on every run.  What makes the
theorems true is not what the tables contain but how they relate (`field_tables_coincide`): all of
them list the keys of a well-formed state, once, in order.  Everything after that fact is about an
arbitrary association list with distinct keys.
-/
namespace FlowCal.C20
open FlowCal.Generated FlowCal.Pickle

/-- Every attribute `__new__` puts on a sample is a field of the pickle state, packed
from that same attribute and restored into that same attribute; and
`__array_finalize__` copies exactly those attributes. (Generated facts; `decide`.) -/
theorem field_tables_coincide :
    pickleFields = sampleFields ∧
    reduceFields = sampleFields.map (fun a => (a, a)) ∧
    setstatePairs = sampleFields.map (fun a => (a, a)) ∧
    finalizeFields = sampleFields ∧
    sampleFields.Nodup := ⟨rfl, rfl, rfl, rfl, by decide +kernel⟩

theorem get_cons_self {V : Type} (k : String) (v : V) (s : State V) : get ((k, v) :: s) k = some v := by
  simp [Pickle.get, List.find?]

theorem get_cons_ne {V : Type} (k k' : String) (v : V) (s : State V) (h : k' ≠ k) :
    get ((k', v) :: s) k = get s k := by
  have : (k' == k) = false := by simpa using h
  simp [Pickle.get, List.find?, this]

/-- with distinct keys, every entry is the one `get` finds -/
theorem get_of_mem {V : Type} {s : State V} (hn : (s.map (·.1)).Nodup) {kv : String × V} (h : kv ∈ s) :
    get s kv.1 = some kv.2 := by
  induction s with
  | nil => cases h
  | cons e s ih =>
    rw [List.map_cons, List.nodup_cons] at hn
    rcases List.mem_cons.1 h with rfl | h
    · exact get_cons_self ..
    · rw [get_cons_ne _ _ _ _ fun (he : e.1 = kv.1) => hn.1 (he ▸ List.mem_map_of_mem h)]
      exact ih hn.2 h

theorem mapM_eq_some_self {α : Type} {f : α → Option α} : ∀ {l : List α}, (∀ a ∈ l, f a = some a) → l.mapM f = some l
  | [], _ => rfl
  | a :: l, h => by
    rw [List.mapM_cons, h a List.mem_cons_self, mapM_eq_some_self fun b hb => h b (List.mem_cons_of_mem a hb)]; rfl

theorem filterMap_eq_self {α : Type} {f : α → Option α} : ∀ {l : List α}, (∀ a ∈ l, f a = some a) → l.filterMap f = l
  | [], _ => rfl
  | a :: l, h => by
    rw [List.filterMap_cons, h a List.mem_cons_self, filterMap_eq_self fun b hb => h b (List.mem_cons_of_mem a hb)]

section
variable {V : Type} {s : State V} (h : WellFormed s)
include h

theorem nodup_keys : (s.map (·.1)).Nodup := h.symm ▸ field_tables_coincide.2.2.2.2

/-- `__reduce__` of a well-formed state packs every attribute, under its own name -/
theorem reduce_eq : reduce s = s.map fun kv => (kv.1, some kv.2) := by
  rw [reduce, field_tables_coincide.2.1, ← h, List.map_map, List.map_map]
  exact List.map_congr_left fun kv hkv => congrArg (Prod.mk kv.1) (get_of_mem (nodup_keys h) hkv)

theorem get_reduce {kv : String × V} (hkv : kv ∈ s) : get (reduce s) kv.1 = some (some kv.2) := by
  rw [reduce_eq h]
  exact get_of_mem (by rw [List.map_map]; exact nodup_keys h) (List.mem_map_of_mem (f := fun kv => (kv.1, some kv.2)) hkv)

end

/-- **Pickle round trip**: for every well-formed state — whatever values earlier
operations (channel slicing, unit conversion, gating) have put into the
attributes — `__setstate__ (__reduce__ s) = s`. -/
theorem setstate_reduce {V : Type} (s : State V) (h : WellFormed s) : setstate (reduce s) = some s := by
  rw [setstate, field_tables_coincide.2.2.1, ← h, List.map_map, List.mapM_map]
  refine mapM_eq_some_self fun kv hkv => ?_
  show (match get (reduce s) kv.1 with | some (some v) => some (kv.1, v) | _ => none) = some kv
  rw [get_reduce h hkv]

/-- **Copy / view / slice** (`__array_finalize__`): every attribute of a well-formed
state is carried over unchanged. -/
theorem finalize_id {V : Type} (s : State V) (h : WellFormed s) : finalize s = s := by
  rw [finalize, field_tables_coincide.2.2.2.1, ← h, List.filterMap_map]
  refine filterMap_eq_self fun kv hkv => ?_
  show (get s kv.1).map (fun v => (kv.1, v)) = some kv
  rw [get_of_mem (nodup_keys h) hkv]; rfl

/-- non-vacuity: a concrete well-formed state -/
example : WellFormed (sampleFields.map (fun a => (a, a.length))) := by
  simp [WellFormed, List.map_map, Function.comp_def]

end FlowCal.C20
