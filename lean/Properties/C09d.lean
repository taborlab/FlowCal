import Properties.C09
import Mathlib.Analysis.Calculus.LocalExtr.Rolle
import Mathlib.Analysis.SpecialFunctions.ExpDeriv
/-!
# C09 — identifiability: the generating law is the only zero of the fitted function
-/
namespace FlowCal.C09
open FlowCal.Mef

/-- the difference of the two exponential laws in the log-fluorescence variable `t = log x` -/
noncomputable def hdiff (p0 p1 m b t : ℝ) : ℝ := Real.exp (p1 + p0 * t) - Real.exp (b + m * t)

theorem hdiff_hasDerivAt (p0 p1 m b t : ℝ) :
    HasDerivAt (hdiff p0 p1 m b) (Real.exp (p1 + p0 * t) * p0 - Real.exp (b + m * t) * m) t := by
  have h : ∀ k c : ℝ, HasDerivAt (fun t => c + k * t) k t := fun k c => (hasDerivAt_const_mul k).const_add c
  exact (h p0 p1).exp.sub (h m b).exp

/-- Rolle: between two points where the laws differ by the same amount their slopes `exp(p1 + p0·s)·p0` and `exp(b + m·s)·m`
agree somewhere, that is `p0 = exp((b - p1) + (m - p0)·s)·m` -/
theorem exists_slopes_eq {p0 p1 m b t1 t2 : ℝ} (h : t1 < t2) (e : hdiff p0 p1 m b t1 = hdiff p0 p1 m b t2) :
    ∃ s ∈ Set.Ioo t1 t2, p0 = Real.exp ((b - p1) + (m - p0) * s) * m := by
  have hd := hdiff_hasDerivAt p0 p1 m b
  obtain ⟨s, hs, d⟩ := exists_hasDerivAt_eq_zero h (fun x _ => (hd x).continuousAt.continuousWithinAt) e fun x _ => hd x
  have split : Real.exp (b + m * s) = Real.exp (p1 + p0 * s) * Real.exp ((b - p1) + (m - p0) * s) := by
    rw [← Real.exp_add]; congr 1; ring
  rw [sub_eq_zero, split, mul_assoc] at d
  exact ⟨s, hs, mul_left_cancel₀ (Real.exp_pos _).ne' d⟩

/-- two exponential laws with equal slopes at two different points coincide: `exp((b - p1) + (m - p0)·s)·m` takes no value
twice unless `m = p0` -/
theorem laws_eq_of_slopes_eq {p0 p1 m b s1 s2 : ℝ} (hm : m ≠ 0) (hs : s1 ≠ s2)
    (h1 : p0 = Real.exp ((b - p1) + (m - p0) * s1) * m) (h2 : p0 = Real.exp ((b - p1) + (m - p0) * s2) * m) :
    p0 = m ∧ p1 = b := by
  have h0 : (m - p0) * s1 = (m - p0) * s2 :=
    add_left_cancel (Real.exp_injective (mul_right_cancel₀ hm (h1.symm.trans h2)))
  obtain rfl : m = p0 := sub_eq_zero.1 ((mul_eq_mul_left_iff.1 h0).resolve_left hs)
  rw [sub_self, zero_mul, add_zero] at h1
  have : Real.exp (b - p1) = 1 := mul_right_cancel₀ hm (h1.symm.trans (one_mul m).symm)
  exact ⟨rfl, (sub_eq_zero.1 (Real.exp_eq_one_iff _ |>.1 this)).symm⟩

/-- two exponential laws that differ by the same constant at three distinct points coincide -/
theorem exp_laws_coincide (p0 p1 m b c t1 t2 t3 : ℝ) (hm : m ≠ 0) (h12 : t1 < t2) (h23 : t2 < t3)
    (e1 : hdiff p0 p1 m b t1 = c) (e2 : hdiff p0 p1 m b t2 = c) (e3 : hdiff p0 p1 m b t3 = c) :
    p0 = m ∧ p1 = b ∧ c = 0 := by
  obtain ⟨s1, hs1, k1⟩ := exists_slopes_eq h12 (e1.trans e2.symm)
  obtain ⟨s2, hs2, k2⟩ := exists_slopes_eq h23 (e2.trans e3.symm)
  obtain ⟨rfl, rfl⟩ := laws_eq_of_slopes_eq hm (hs1.2.trans hs2.1).ne k1 k2
  exact ⟨rfl, rfl, by rw [← e1, hdiff, sub_self]⟩

/-- a zero sum of squared residuals means every residual is zero -/
theorem residuals_zero (p0 p1 p2 : ℝ) (pts : List (ℝ × ℝ)) (h : errFun p0 p1 p2 pts = 0) :
    ∀ q ∈ pts, residual realOps p0 p1 p2 q.1 q.2 = 0 := fun _ hq =>
  pow_eq_zero_iff two_ne_zero |>.1 <| List.all_zero_of_le_zero_le_of_sum_eq_zero
    (List.forall_mem_map.2 fun _ _ => sq_nonneg _) h
    (List.mem_map_of_mem (f := fun r : ℝ × ℝ => residual realOps p0 p1 p2 r.1 r.2 ^ 2) hq)

/-- **Identifiability.**  Bead pairs `(rfi, mef)` generated by the law `m·log(rfi) + b = log(mef + a)` with
`m ≠ 0`, containing three different fluorescence values, determine the parameters: any parameter vector
in the optimiser's domain (`mef + p2 > 0`, which its bound `p2 ≥ 0` guarantees for positive MEF values)
with a zero sum of squared residuals **is** `(m, b, a)`.  Together with `exact_law_is_minimiser`: the
true law is the unique global minimiser of the function `fit_beads_autofluorescence` minimises. -/
theorem exact_law_unique_minimiser (m b a p0 p1 p2 : ℝ) (pts : List (ℝ × ℝ)) (hm : m ≠ 0)
    (hlaw : ∀ q ∈ pts, 0 < q.1 ∧ 0 < q.2 + a ∧ m * Real.log q.1 + b = Real.log (q.2 + a))
    (hdom : ∀ q ∈ pts, 0 < q.2 + p2)
    (q1 q2 q3 : ℝ × ℝ) (m1 : q1 ∈ pts) (m2 : q2 ∈ pts) (m3 : q3 ∈ pts) (h12 : q1.1 < q2.1) (h23 : q2.1 < q3.1)
    (hfit : errFun p0 p1 p2 pts = 0) :
    p0 = m ∧ p1 = b ∧ p2 = a := by
  have hval : ∀ q ∈ pts, hdiff p0 p1 m b (Real.log q.1) = p2 - a := fun q hq => by
    obtain ⟨_, hya, hl⟩ := hlaw q hq
    have hr := sub_eq_zero.1 ((residual_real p0 p1 p2 q.1 q.2).symm.trans (residuals_zero p0 p1 p2 pts hfit q hq))
    rw [hdiff, add_comm p1, ← hr, add_comm b, hl, Real.exp_log (hdom q hq), Real.exp_log hya, add_sub_add_left_eq_sub]
  obtain ⟨h0, h1, h2⟩ := exp_laws_coincide p0 p1 m b (p2 - a) _ _ _ hm
    (Real.log_lt_log (hlaw q1 m1).1 h12) (Real.log_lt_log (hlaw q2 m2).1 h23) (hval q1 m1) (hval q2 m2) (hval q3 m3)
  exact ⟨h0, h1, sub_eq_zero.1 h2⟩

/-- the premises are satisfiable: three beads on the law `m = 1, b = 0, a = 1` -/
example : ∃ pts : List (ℝ × ℝ), (∀ q ∈ pts, 0 < q.1 ∧ 0 < q.2 + 1 ∧ (1:ℝ) * Real.log q.1 + 0 = Real.log (q.2 + 1)) ∧
    errFun 1 0 1 pts = 0 ∧ pts.length = 3 := by
  refine ⟨[(2, 1), (3, 2), (4, 3)], ?h, (exact_law_is_minimiser 1 0 1 _ fun q hq => (?h q hq).2.2).1, rfl⟩
  intro q hq
  simp only [List.mem_cons, List.mem_nil_iff, or_false] at hq
  rcases hq with rfl | rfl | rfl <;> norm_num

end FlowCal.C09
