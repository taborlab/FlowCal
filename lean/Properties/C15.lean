import FlowCalModel.Excel
import FlowCalModel.Generated
/-!
# C15 — A well-formed workbook always yields a complete, faithful output workbook (schema level)
-/
namespace FlowCal.C15
open FlowCal.Excel FlowCal.Py

variable {Row : Type}

theorem hasDup_false_iff (l : List String) : hasDup l = false ↔ l.Nodup := by
  induction l with
  | nil => simp [hasDup]
  | cons x xs ih => simp [hasDup, ih, List.nodup_cons]

/-- rows without an identifier are dropped, the others are kept in order with their contents; an accepted
table has pairwise distinct identifiers -/
theorem readFilter_keeps (rows : List (Option String × Row)) (out : List (String × Row)) (h : readFilter rows = .ok out) :
    out = rows.filterMap (fun ir => ir.1.map (fun s => (s, ir.2))) ∧ (out.map (·.1)).Nodup := by
  unfold readFilter at h
  dsimp only at h
  split at h
  · nomatch h
  · rename_i hd
    cases h
    exact ⟨rfl, (hasDup_false_iff _).1 (Bool.eq_false_iff.2 hd)⟩

/-- duplicated identifiers are refused -/
theorem readFilter_duplicates_refused (rows : List (Option String × Row))
    (h : ¬ ((rows.filterMap (fun ir => ir.1.map (fun s => (s, ir.2)))).map (·.1)).Nodup) :
    readFilter rows = .error .ValueError :=
  if_pos (Bool.of_not_eq_false (mt (hasDup_false_iff _).1 h))

/-- the output workbook's sheets -/
theorem sheets_spec : outputSheets false = ["Instruments", "Beads", "Samples", "About Analysis"] ∧
    outputSheets true = ["Instruments", "Beads", "Samples", "Histograms", "About Analysis"] := ⟨rfl, rfl⟩

/-- twelve result columns per reported channel after the three general ones, in the documented order -/
theorem statsColumns_count (chs : List String) : (samplesStatsColumns chs).length = 3 + 12 * chs.length := by
  rw [samplesStatsColumns, List.length_append, List.length_flatMap]
  simp only [List.length_map, List.length_cons, List.length_nil, List.map_const', List.sum_replicate_nat]
  omega

example : samplesStatsColumns ["FL1"] = ["Analysis Notes", "Number of Events", "Acquisition Time (s)", "FL1 Detector Volt.", "FL1 Amp. Type",
    "FL1 Mean", "FL1 Geom. Mean", "FL1 Median", "FL1 Mode", "FL1 Std", "FL1 CV", "FL1 Geom. Std", "FL1 Geom. CV", "FL1 IQR", "FL1 RCV"] := rfl
example : readFilter [(some "a", 1), (none, 2), (some "b", 3)] = .ok [("a", 1), ("b", 3)] := by decide +kernel
example : readFilter [(some "a", 1), (none, 2), (some "a", 3)] = .error .ValueError := by decide +kernel

/-- the sheets of the output workbook are the ones `run()` appends in the source now (regenerated on every run):
the conditional ones exactly when a histogram sheet is requested, all in source order -/
theorem sheets_match_source (hist : Bool) :
    outputSheets hist = ((Generated.outputSheetSpec.filter (fun p => !p.2 || hist)).map (·.1)) := by
  cases hist <;> rfl

/-- the result columns are the ones `add_samples_stats` creates in the source now: the table-level columns, then for every
reported channel the per-channel suffixes, all in order of first assignment -/
theorem stats_columns_match_source (channels : List String) :
    samplesStatsColumns channels =
      Generated.statsHeadColumns ++ channels.flatMap (fun c => Generated.statsPerChannelSuffixes.map (c ++ ·)) := rfl

end FlowCal.C15
