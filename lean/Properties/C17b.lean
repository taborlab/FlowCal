import Properties.C17
/-!
# C17 (continued) — dates: what a parsed `$DATE` can be

Two-digit years follow the fixed pivot of `strptime` (00–68 → 20xx, 69–99 → 19xx) whatever today's date is; every date that is
returned is a real calendar date; the date never depends on the other keywords.
-/
namespace FlowCal.C17
open FlowCal.Py FlowCal.Text FlowCal.Meta FlowCal.Exc

/-- a two-digit year lands in 1969..2068 and keeps its last two digits -/
theorem fieldY2_pivot (s : Str) (y : Nat) (h : fieldY2 s = some y) :
    1969 ≤ y ∧ y ≤ 2068 ∧ (y = 2000 + natOf s ∧ natOf s < 69 ∨ y = 1900 + natOf s ∧ 69 ≤ natOf s) := by
  simp only [fieldY2, Option.ite_none_right_eq_some, Bool.and_eq_true, beq_iff_eq, Option.some.injEq] at h
  obtain ⟨⟨hd, hl⟩, rfl⟩ := h
  have h100 : natOf s < 100 := by
    rw [List.eq_getElem_of_length_eq_two s hl] at hd ⊢
    simp only [allDigits, List.all_cons, List.all_nil, Bool.and_true, Bool.and_eq_true, isDigit, decide_eq_true_eq] at hd
    simp only [natOf, List.foldl_cons, List.foldl_nil]
    omega
  split <;> omega

/-- every date `mkDate` returns has a day that exists in its month (leap years included) -/
theorem mkDate_valid (y m d : Option Nat) (dt : Date) (h : mkDate y m d = some dt) : dt.d ≤ daysIn dt.y dt.m := by
  unfold mkDate at h
  split at h
  · obtain ⟨hle, ⟨⟩⟩ := Option.ite_none_right_eq_some.mp h
    exact hle
  · cases h

/-- **Every parsed `$DATE` is a calendar date**: whichever of the four documented formats matched. -/
theorem parseDate_valid (v : Option Str) (dt : Date) (h : parseDate v = some dt) : dt.d ≤ daysIn dt.y dt.m := by
  unfold parseDate at h
  split at h
  · cases h
  · split at h
    · -- whichever alternative produced the date, it came out of `mkDate`
      simp only [Option.orElse_eq_or, Option.or_eq_some_iff] at h
      rcases h with h | ⟨-, h | ⟨-, h | ⟨-, h⟩⟩⟩ <;> exact mkDate_valid _ _ _ _ h
    · cases h

/-- the date of both moments is the parsed `$DATE`, independently of `$BTIM` / `$ETIM` -/
theorem moments_date (d : Dict) (b e : Option Moment) (h : moments d = .ok (b, e)) :
    (∀ mb, b = some mb → mb.date = parseDate (get d "$DATE")) ∧ (∀ me, e = some me → me.date = parseDate (get d "$DATE")) := by
  simp only [moments, bind_eq_ok, pure_eq_ok, Except.ok.injEq, Prod.mk.injEq] at h
  obtain ⟨tb, -, te, -, rfl, rfl⟩ := h
  constructor <;> (intro _ hm; obtain ⟨t, -, rfl⟩ := Option.map_eq_some_iff.mp hm; rfl)

/-- examples: `07-Mar-68` is 2068 (in the future), `01-jan-69` is 1969, 30 February does not exist -/
example : parseDate (some (s2l "07-Mar-68")) = some ⟨2068, 3, 7⟩ := by decide +kernel
example : parseDate (some (s2l "01-jan-69")) = some ⟨1969, 1, 1⟩ := by decide +kernel
example : parseDate (some (s2l "30-FEB-2016")) = none := by decide +kernel
example : parseDate (some (s2l "29-FEB-2016")) = some ⟨2016, 2, 29⟩ := by decide +kernel

end FlowCal.C17
