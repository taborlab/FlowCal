import FlowCalModel.File
/-!
# `loadFile` as the composition of its stages

One characterisation per stage function of `FlowCalModel.File` (`… = .ok x ↔ every stage succeeded and x is built from their
results`), and the one fact about reads from a truncated file.  What C01f/g, C14b and C16b/c/d say about the whole of `loadFile`,
in either direction, goes through these.
-/
namespace FlowCal.File
open FlowCal.Py FlowCal.Text FlowCal.Data

/-- a window that ends inside the first `n` elements is the same in the list cut at `n` -/
theorem take_drop_take {α} (l : List α) (n p c : Nat) (h : p + c ≤ n) : ((l.take n).drop p).take c = (l.drop p).take c := by
  rw [List.drop_take, List.take_take, Nat.min_eq_left (by omega)]

theorem readAt_of_nonneg (file : Bytes) (pos cnt : Int) (h0 : 0 ≤ pos) (hc : 0 ≤ cnt) :
    readAt file pos cnt = .ok ((file.drop pos.toNat).take cnt.toNat) := by
  have h3 : (cnt == -1) = false := beq_false_of_ne (by omega)
  simp only [readAt, h3, Int.not_lt.2 h0, Int.not_lt.2 hc, Bool.false_eq_true, if_false]

theorem dtypeOf_I : dtypeOf (s2l "I") = .I := by decide
theorem dtypeOf_F : dtypeOf (s2l "F") = .F := by decide
theorem dtypeOf_D : dtypeOf (s2l "D") = .D := by decide

theorem dtypeOf_eq_I {dts : Bytes} : dtypeOf dts = .I ↔ dts = s2l "I" := by
  unfold dtypeOf
  by_cases h : dts = s2l "I"
  · simp [h]
  · simp only [beq_iff_eq, h, if_false, iff_false]
    split <;> nofun

theorem loadFile_eq_ok_iff {file : Bytes} {L : Loaded} :
    loadFile file = .ok L ↔ ∃ h t k, parseHeader file = .ok h ∧ readTextSeg file h.textBegin h.textEnd none false = .ok t ∧
      loadKeywords file h t = .ok k ∧ loadData file h k = .ok L := by
  constructor
  · unfold loadFile loadRest
    cases hh : parseHeader file with
    | error e => exact nofun
    | ok h =>
      dsimp only
      cases ht : readTextSeg file h.textBegin h.textEnd none false with
      | error e => exact nofun
      | ok t =>
        dsimp only
        cases hk : loadKeywords file h t with
        | error e => exact nofun
        | ok k => exact fun hd => ⟨h, t, k, rfl, ht, hk, hd⟩
  · rintro ⟨h, t, k, hh, ht, hk, hd⟩
    simp only [loadFile, loadRest, hh, ht, hk, hd]

theorem loadKeywords_eq_ok_iff {file : Bytes} {h : Header} {t : Dict × Option Nat × Bool} {k : Keywords} :
    loadKeywords file h t = .ok k ↔ ∃ text warns0 dts par ws big nd an bad bits,
      mergeText file h t = .ok (text, warns0) ∧ checkLayout text = .ok (dts, par, ws, big, nd) ∧
      readAnalysis file h t.2.1 text = .ok (an, bad) ∧ readBits text par = .ok bits ∧
      k = ⟨text, an, warns0 ++ (if nd then ["nextdata"] else []) ++ (if bad then ["analysis"] else []), dts, ws, big, bits⟩ := by
  constructor
  · unfold loadKeywords
    cases hm : mergeText file h t with
    | error e => exact nofun
    | ok m =>
      obtain ⟨text, warns0⟩ := m
      dsimp only
      cases hc : checkLayout text with
      | error e => exact nofun
      | ok c =>
        obtain ⟨dts, par, ws, big, nd⟩ := c
        dsimp only
        cases ha : readAnalysis file h t.2.1 text with
        | error e => exact nofun
        | ok a =>
          obtain ⟨an, bad⟩ := a
          dsimp only
          cases hb : readBits text par with
          | error e => exact nofun
          | ok bits => exact fun hk => ⟨text, warns0, dts, par, ws, big, nd, an, bad, bits, rfl, hc, ha, hb, (Except.ok.inj hk).symm⟩
  · rintro ⟨text, warns0, dts, par, ws, big, nd, an, bad, bits, hm, hc, ha, hb, rfl⟩
    simp only [loadKeywords, hm, hc, ha, hb]

/-- what `loadData` refuses before it reads: a negative `$TOT` or offset, a negative `$PnB`, an integer range without a bit count -/
theorem loadData_guards (k : Keywords) (db de tot : Int) :
    ((decide (tot < 0) || decide (db < 0) || decide (de < 0)) = false ∧ k.ws.any (· < 0) = false ∧
      (dtypeOf k.dts == .I && k.bits.any Option.isNone) = false) ↔
    (0 ≤ tot ∧ 0 ≤ db ∧ 0 ≤ de) ∧ (∀ w ∈ k.ws, 0 ≤ w) ∧ (dtypeOf k.dts = .I → ∀ b ∈ k.bits, b.isSome = true) := by
  simp [and_assoc, Option.isSome_iff_ne_none]

theorem loadData_eq_ok_iff {file : Bytes} {h : Header} {k : Keywords} {L : Loaded} :
    loadData file h k = .ok L ↔ ∃ db de tot data, dataOffsets h k.text = .ok (db, de) ∧ intKw k.text "$TOT" = .ok tot ∧
      (0 ≤ tot ∧ 0 ≤ db ∧ 0 ≤ de) ∧ (∀ w ∈ k.ws, 0 ≤ w) ∧ (dtypeOf k.dts = .I → ∀ b ∈ k.bits, b.isSome = true) ∧
      readData file db.toNat de.toNat (dtypeOf k.dts) tot.toNat (k.ws.map Int.toNat) k.big (some (k.bits.map (·.getD 0))) = .ok data ∧
      L = ⟨k.text, k.analysis, data, k.ws.length, dtypeOf k.dts != .I, widthOf (dtypeOf k.dts) (k.ws.map Int.toNat), k.warnings⟩ := by
  constructor
  · unfold loadData
    cases ho : dataOffsets h k.text with
    | error e => exact nofun
    | ok o =>
      obtain ⟨db, de⟩ := o
      cases ht : intKw k.text "$TOT" with
      | error e => exact nofun
      | ok tot =>
        dsimp only
        cases g1 : (decide (tot < 0) || decide (db < 0) || decide (de < 0)) with
        | true => exact nofun
        | false =>
          cases g2 : k.ws.any (· < 0) with
          | true => exact nofun
          | false =>
            cases g3 : (dtypeOf k.dts == .I && k.bits.any Option.isNone) with
            | true => exact nofun
            | false =>
              cases hr : readData file db.toNat de.toNat (dtypeOf k.dts) tot.toNat (k.ws.map Int.toNat) k.big (some (k.bits.map (·.getD 0))) with
              | error e => exact nofun
              | ok data =>
                have g := (loadData_guards k db de tot).1 ⟨g1, g2, g3⟩
                intro hL
                exact ⟨db, de, tot, data, rfl, rfl, g.1, g.2.1, g.2.2, hr, by simpa using (Except.ok.inj hL).symm⟩
  · rintro ⟨db, de, tot, data, ho, ht, h0, hw, hb, hr, rfl⟩
    obtain ⟨g1, g2, g3⟩ := (loadData_guards k db de tot).2 ⟨h0, hw, hb⟩
    simp only [loadData, ho, ht, g1, g2, g3, hr, Bool.false_eq_true, if_false, List.length_map]

end FlowCal.File
