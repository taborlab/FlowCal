import FlowCalModel.Transform
/-!
# C03 — RFI conversion applies exactly the amplifier law of each selected channel
(also the column-function lemmas shared with C06 and C07)
-/
namespace FlowCal.C03
open FlowCal.Transform FlowCal.Py

variable {V : Type}

/-- conversions of two different columns commute -/
theorem mapCol_comm (c c' : Nat) (f g : V → V) (rows : List (List V)) (h : c ≠ c') :
    mapCol c f (mapCol c' g rows) = mapCol c' g (mapCol c f rows) := by
  simp only [mapCol, List.map_map, Function.comp_def, List.modify_modify_ne g f _ h.symm]

/-- **Every other channel is identical**: converting column `c` leaves every other column, the
number of events and their order unchanged. -/
theorem mapCol_untouched (c j : Nat) (f : V → V) (rows : List (List V)) (h : c ≠ j) :
    (mapCol c f rows).map (·[j]?) = rows.map (·[j]?) := by
  simp only [mapCol, List.map_map, Function.comp_def, List.getElem?_modify_ne f _ h]

theorem mapCol_length (c : Nat) (f : V → V) (rows : List (List V)) :
    (mapCol c f rows).length = rows.length ∧ (mapCol c f rows).map List.length = rows.map List.length := by
  simp [mapCol, List.map_map, Function.comp_def]

/-- the converted column holds `f` of the old values -/
theorem mapCol_converted (c : Nat) (f : V → V) (rows : List (List V)) :
    (mapCol c f rows).map (·[c]?) = rows.map (fun r => (r[c]?).map f) := by
  simp only [mapCol, List.map_map, Function.comp_def, List.getElem?_modify_eq, Option.map_eq_map]

theorem applyAll_cons (a : Nat × (V → V)) (acts : List (Nat × (V → V))) (rows : List (List V)) :
    applyAll (a :: acts) rows = applyAll acts (mapCol a.1 a.2 rows) := rfl

/-- **Batch = one at a time, in any order**: for a duplicate-free list of columns, applying
the per-column conversions in any permuted order gives the identical result. -/
theorem applyAll_perm (acts acts' : List (Nat × (V → V))) (rows : List (List V))
    (hp : acts.Perm acts') (hnd : (acts.map (·.1)).Nodup) :
    applyAll acts rows = applyAll acts' rows := by
  induction hp generalizing rows with
  | nil => rfl
  | cons a _ ih => exact ih _ (List.nodup_cons.mp hnd).2
  | swap a b l =>
    have hne : b.1 ≠ a.1 := (List.pairwise_cons.mp hnd).1 _ List.mem_cons_self
    exact congrArg (applyAll l) (mapCol_comm _ _ _ _ rows hne.symm)
  | trans h1 _ ih1 ih2 => exact (ih1 rows hnd).trans (ih2 rows ((h1.map _).nodup_iff.mp hnd))

/-! ## Law selection (decision logic of `to_rfi`, stated outright) -/

variable {P : Type}

/-- linear amplifier: the gain is the override if given, else the file's `$PnG` (samples), else 1 (`none`) -/
theorem law_linear (isZero : P → Bool) (m : Meta P) (ch : Int) (col : Nat) (r : Option P) (a : P × P) (ag : Option P)
    (hc : colOf m.ncols ch = .ok col) (hz : isZero a.1 = true) :
    decide1 isZero m ch r (some a) ag =
      .ok (col, .lin (match ag with | some g => some g | none => if m.isSample then m.gain.getD col none else none)) := by
  simp [decide1, hc, hz, bind, Except.bind, pure, Except.pure]
  cases ag <;> rfl

/-- log amplifier with an explicit resolution: `a1 * 10^(a0/r * x)` with exactly those parameters -/
theorem law_log_override (isZero : P → Bool) (m : Meta P) (ch : Int) (col : Nat) (r : P) (a : P × P) (ag : Option P)
    (hc : colOf m.ncols ch = .ok col) (hz : isZero a.1 = false) :
    decide1 isZero m ch (some r) (some a) ag = .ok (col, .log a.1 a.2 r) := by
  simp [decide1, hc, hz, bind, Except.bind, pure, Except.pure]

/-- settings taken from the file when the caller gives none -/
theorem law_from_file (isZero : P → Bool) (m : Meta P) (ch : Int) (col : Nat) (a : P × P) (rr : P)
    (hs : m.isSample = true) (hc : colOf m.ncols ch = .ok col)
    (ha : m.ampType.getD col none = some a) (hr : m.res[col]? = some rr) (hz : isZero a.1 = false) :
    decide1 isZero m ch none none none = .ok (col, .log a.1 a.2 rr) := by
  simp only [decide1, hc, hs, ha, hr, hz, bind, Except.bind, pure, Except.pure]
  rfl

/-- a plain array without an amplification type is refused -/
theorem array_needs_amplification_type (isZero : P → Bool) (m : Meta P) (ch : Int) (r ag : Option P)
    (hs : m.isSample = false) (col : Nat) (hc : colOf m.ncols ch = .ok col) :
    decide1 isZero m ch r none ag = .error .ValueError := by
  simp [decide1, hc, hs, bind, Except.bind, throw, throwThe, MonadExceptOf.throw]

/-- **Inconsistent argument lengths are refused.** -/
theorem length_mismatch_refused (isZero : P → Bool) (m : Meta P) (cs : List Ref) (l : List (Option (P × P)))
    (ag : Arg P) (res : Arg P) (h : l.length ≠ cs.length) :
    toRfi isZero m (some (.inr cs)) (.list l) ag res = .error .ValueError := by
  unfold toRfi
  simp only [normList, if_pos h]
  rfl

theorem scalar_with_list_refused (isZero : P → Bool) (m : Meta P) (cs : List Ref) (a : P × P) (ag : Arg P) (res : Arg P) :
    toRfi isZero m (some (.inr cs)) (.scalar a) ag res = .error .ValueError := rfl

/-! Non-vacuity: a 3-channel sample, mixed log/linear, one override -/
example :
    let m : Meta Nat := ⟨true, 3, ["FSC", "FL1", "T"], [some (0, 0), some (4, 1), some (0, 0)], [none, none, some 2], [1024, 1024, 1024]⟩
    toRfi (· == 0) m (some (.inr [.name "T", .pos 1, .pos (-3)])) .none (.list [none, none, some 8]) .none
      = .ok [(2, .lin (some 2)), (1, .log 4 1 1024), (0, .lin (some 8))] := by decide +kernel

end FlowCal.C03
