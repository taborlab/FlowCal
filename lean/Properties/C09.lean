import FlowCalModel.Mef
import Mathlib.Analysis.SpecialFunctions.Pow.Real
import Mathlib.Analysis.SpecialFunctions.Log.Basic
import Mathlib.Order.Monotone.Odd
/-!
# C09 — Fitting the bead model recovers the law that generated the beads
-/
namespace FlowCal.C09
open FlowCal.Mef

noncomputable def sgn (x : ℝ) : ℝ := if x > 0 then 1 else if x < 0 then -1 else 0

noncomputable def realOps : Ops ℝ := ⟨Real.exp, Real.log, fun x m => x ^ m, fun x => |x|, sgn⟩

noncomputable def sc (m b x : ℝ) : ℝ := stdCurve realOps m b x

theorem sc_def (m b x : ℝ) : sc m b x = sgn x * Real.exp b * |x| ^ m := rfl

/-- for positive inputs the standard curve is `exp(b)·x^m` -/
theorem sc_pos_eq (m b x : ℝ) (hx : 0 < x) : sc m b x = Real.exp b * x ^ m := by
  simp [sc_def, sgn, hx, abs_of_pos hx]

theorem sgn_neg (x : ℝ) : sgn (-x) = -sgn x := by
  unfold sgn
  rcases lt_trichotomy x 0 with h | rfl | h
  · rw [if_pos (neg_pos.2 h), if_neg h.not_gt, if_pos h, neg_neg]
  · simp
  · rw [if_neg (neg_pos.not.2 h.not_gt), if_pos (neg_neg_of_pos h), if_pos h]

/-- **The standard curve is an odd function** (for every fit whatsoever). -/
theorem sc_odd (m b x : ℝ) : sc m b (-x) = - sc m b x := by
  rw [sc_def, sc_def, abs_neg, sgn_neg, neg_mul, neg_mul]

/-- zero at zero -/
theorem sc_zero (m b : ℝ) : sc m b 0 = 0 := by simp [sc_def, sgn]

/-- **Strictly increasing for positive slope** on the whole real line: odd, and strictly increasing on `[0, ∞)`. -/
theorem sc_strictMono (m b : ℝ) (hm : 0 < m) : StrictMono (sc m b) := by
  refine strictMono_of_odd_strictMonoOn_nonneg (sc_odd m b) fun x hx y _ hxy => ?_
  rcases eq_or_lt_of_le (Set.mem_Ici.1 hx) with rfl | h0
  · rw [sc_zero, sc_pos_eq m b y hxy]
    exact mul_pos (Real.exp_pos b) (Real.rpow_pos_of_pos hxy m)
  · rw [sc_pos_eq m b x h0, sc_pos_eq m b y (h0.trans hxy)]
    exact mul_lt_mul_of_pos_left (Real.rpow_lt_rpow h0.le hxy hm) (Real.exp_pos b)

/-- **The bead model equals the standard curve minus the autofluorescence** for positive inputs. -/
theorem model_eq_curve_sub_auto (m b a x : ℝ) (hx : 0 < x) :
    beadsModel realOps m b a x = sc m b x - a := by
  rw [sc_pos_eq m b x hx]
  simp only [beadsModel, realOps]
  rw [Real.exp_add, mul_comm m (Real.log x), Real.exp_mul, Real.exp_log hx]
  ring

/-- sum of squared residuals over the bead pairs -/
noncomputable def errFun (p0 p1 p2 : ℝ) (pts : List (ℝ × ℝ)) : ℝ :=
  (pts.map (fun q => (residual realOps p0 p1 p2 q.1 q.2) ^ 2)).sum

theorem residual_real (p0 p1 p2 x y : ℝ) :
    residual realOps p0 p1 p2 x y = Real.log (y + p2) - (p0 * Real.log x + p1) := rfl

theorem errFun_nonneg (p0 p1 p2 : ℝ) (pts : List (ℝ × ℝ)) : 0 ≤ errFun p0 p1 p2 pts :=
  List.sum_nonneg (List.forall_mem_map.2 fun _ _ => sq_nonneg _)

/-- **Exact-law data**: when every pair satisfies `m·log(rfi) + b = log(mef + a)`, the true parameters
have zero residual, hence are a global minimiser of the function the optimiser minimises (inside its
bound `a ≥ 0` whenever the true autofluorescence is non-negative). -/
theorem exact_law_is_minimiser (m b a : ℝ) (pts : List (ℝ × ℝ))
    (hlaw : ∀ q ∈ pts, m * Real.log q.1 + b = Real.log (q.2 + a)) :
    errFun m b a pts = 0 ∧ ∀ p0 p1 p2, errFun m b a pts ≤ errFun p0 p1 p2 pts := by
  have h0 : errFun m b a pts = 0 :=
    List.sum_eq_zero (List.forall_mem_map.2 fun q hq =>
      sq_eq_zero_iff.2 (sub_eq_zero.2 (hlaw q hq).symm))
  exact ⟨h0, fun p0 p1 p2 => h0 ▸ errFun_nonneg p0 p1 p2 pts⟩

end FlowCal.C09
