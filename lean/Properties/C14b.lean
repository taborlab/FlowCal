import Properties.C14
import Properties.FileStages
/-!
# C14 (continued) — the keywords a loaded file reports are the parsed primary TEXT segment, updated by the parsed
supplemental TEXT segment where one is declared; nothing else in `FCSFile.__init__` touches them
-/
namespace FlowCal.C14
open FlowCal.Py FlowCal.Text FlowCal.File

/-- the keyword dictionary survives the later stages of `FCSFile.__init__` unchanged -/
theorem loadKeywords_text (file : Bytes) (h : Header) (t : Dict × Option Nat × Bool) (k : Keywords)
    (hk : loadKeywords file h t = .ok k) : ∃ w, mergeText file h t = .ok (k.text, w) := by
  obtain ⟨_, w, _, _, _, _, _, _, _, _, hm, _, _, _, rfl⟩ := loadKeywords_eq_ok_iff.1 hk
  exact ⟨w, hm⟩

/-- what the merge stage returns: the primary dictionary itself, or the primary dictionary updated with the dictionary of the
supplemental segment read at the offsets the primary keywords give -/
theorem mergeText_spec (file : Bytes) (h : Header) (t : Dict × Option Nat × Bool) (text : Dict) (w : List String)
    (hm : mergeText file h t = .ok (text, w)) :
    text = t.1 ∨ ∃ sb se st dl w1, intKw t.1 "$BEGINSTEXT" = .ok sb ∧ intKw t.1 "$ENDSTEXT" = .ok se ∧ sb ≠ 0 ∧ se ≠ 0 ∧
      readTextSeg file sb se (match t.2.1 with | some c => some (some c) | none => none) true = .ok (st, dl, w1) ∧
      text = dictUpdate t.1 st := by
  obtain ⟨text0, delim, w0⟩ := t
  -- every branch that reads no supplemental segment returns `text0`
  have keep {ws : List String} (hk : (.ok (text0, ws) : Except PyErr _) = .ok (text, w)) : text = text0 :=
    (Prod.mk.inj (Except.ok.inj hk)).1.symm
  revert hm
  unfold mergeText
  dsimp only
  cases isV3 h.version with
  | false => exact fun hm => .inl (keep hm)
  | true =>
    cases intKw text0 "$BEGINSTEXT" with
    | error e => exact nofun
    | ok sb =>
      cases intKw text0 "$ENDSTEXT" with
      | error e => exact nofun
      | ok se =>
        by_cases hnz : sb ≠ 0 ∧ se ≠ 0
        · have : (sb != 0 && se != 0) = true := by simpa using hnz
          simp only [this, if_true]
          intro hm
          split at hm
          · contradiction
          · rename_i st dl w1 hst
            exact .inr ⟨sb, se, st, dl, w1, rfl, rfl, hnz.1, hnz.2, hst, (Prod.mk.inj (Except.ok.inj hm)).1.symm⟩
        · have : (sb != 0 && se != 0) = false := by simpa using hnz
          simp only [this, Bool.false_eq_true, if_false]
          exact fun hm => .inl (keep hm)

/-- the keywords a loaded file reports are exactly what the merge stage returned -/
theorem loadFile_text {file : Bytes} {L : Loaded} (hL : loadFile file = .ok L) :
    ∃ h t w, parseHeader file = .ok h ∧ readTextSeg file h.textBegin h.textEnd none false = .ok t ∧
      mergeText file h t = .ok (L.text, w) := by
  obtain ⟨h, t, k, hh, ht, hk, hd⟩ := loadFile_eq_ok_iff.1 hL
  obtain ⟨w, hm⟩ := loadKeywords_text file h t k hk
  obtain ⟨_, _, _, _, _, _, _, _, _, _, rfl⟩ := loadData_eq_ok_iff.1 hd
  exact ⟨h, t, w, hh, ht, hm⟩

/-- **Keywords of a loaded file.** Every keyword of a file that loads maps to the value the supplemental TEXT segment gives it
(its last definition there), and otherwise to the value of the primary TEXT segment — for every file. -/
theorem loadFile_keywords (file : Bytes) (L : Loaded) (hL : loadFile file = .ok L) :
    ∃ (h : Header) (prim : Dict) (dl : Option Nat) (wp : Bool), parseHeader file = .ok h ∧
      readTextSeg file h.textBegin h.textEnd none false = .ok (prim, dl, wp) ∧
      (L.text = prim ∨ ∃ supp : Dict, ∀ key, dictLookup key L.text = (lastVal key supp).orElse (fun _ => dictLookup key prim)) := by
  obtain ⟨h, ⟨prim, dl, wp⟩, w, hh, ht, hm⟩ := loadFile_text hL
  refine ⟨h, prim, dl, wp, hh, ht, ?_⟩
  rcases mergeText_spec file h (prim, dl, wp) L.text w hm with h1 | ⟨_, _, st, _, _, _, _, _, _, _, h2⟩
  · exact .inl h1
  · exact .inr ⟨st, fun key => h2 ▸ merge_spec key prim st⟩

end FlowCal.C14
