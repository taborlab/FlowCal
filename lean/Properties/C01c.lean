import Properties.C01b
/-!
# C01 (continued) — uniform-width rows (integers, and floats as bit patterns), the range mask, and the integer matrix round trip
-/
namespace FlowCal.C01
open FlowCal.Data FlowCal.Py

theorem rowBytes_replicate (D w : Nat) : rowBytes (List.replicate D w) = D * (w / 8) := by
  rw [rowBytes, List.map_replicate, List.sum_replicate_nat]

/-- uniform widths: a matrix is well formed when every row has `D` cells, each below `2 ^ w` -/
theorem wellFormed_replicate {D w : Nat} {m : List (List Nat)} :
    WellFormed (List.replicate D w) m ↔ ∀ r ∈ m, D = r.length ∧ ∀ v ∈ r, v < 2 ^ w := by
  refine forall₂_congr fun r _ => ?_
  rw [List.length_replicate]
  refine and_congr_right fun hl => ?_
  subst hl
  simp [zip_replicate_left]

/-- rows of `D` cells of `w` bits decode by `D` aligned reads: the uniform integers, and the floats as 32/64-bit patterns -/
theorem uniform_rows (be : Bool) (D w : Nat) (m : List (List Nat)) (hm : WellFormed (List.replicate D w) m) (h8 : w % 8 = 0) :
    (chunks (rowBytes (List.replicate D w)) m.length (encodeEvents be (List.replicate D w) m)).map
      (decodeRowUniform be w D) = m := by
  refine map_chunks_encode be _ m _ (fun r hr => (hm r hr).1) fun r hr => ?_
  obtain ⟨rfl, hv⟩ := wellFormed_replicate.mp hm r hr
  exact decodeRowUniform_encodeRow be w r (pow256_div8 h8 ▸ hv)

theorem isUniform_iff (ws : List Nat) :
    isUniform ws = true ↔ ∃ w, (w = 8 ∨ w = 16 ∨ w = 32 ∨ w = 64) ∧ ws = List.replicate ws.length w := by
  simp only [isUniform, allEq, Bool.or_eq_true, List.all_eq_true, beq_iff_eq, List.eq_replicate_iff, true_and, or_and_right,
    exists_or, exists_eq_left, or_assoc]

theorem headD_replicate {D : Nat} (hD : D ≠ 0) (w : Nat) : (List.replicate D w).headD 0 = w := by
  cases D with
  | zero => exact absurd rfl hD
  | succ D => rfl

/-- masking rows: `data[:, col] &= ~((~0) << bits_used)` -/
def maskRows (bu : List Nat) (m : List (List Nat)) : List (List Nat) :=
  m.map (fun r => (r.zip bu).map (fun p => applyMask p.2 p.1))

/-- **Integers are reduced to the low bits implied by the declared range.** -/
theorem decodeInt_mask (be : Bool) (ws : List Nat) (n : Nat) (bytes : List Nat) (bu : List Nat) :
    decodeInt be ws n bytes (some bu) = maskRows bu (decodeInt be ws n bytes none) := by
  unfold decodeInt maskRows
  simp

/-- values below their declared ranges are untouched -/
theorem maskRows_id (bu : List Nat) (m : List (List Nat))
    (h : ∀ r ∈ m, r.length = bu.length ∧ ∀ p ∈ r.zip bu, p.1 < 2 ^ p.2) : maskRows bu m = m := by
  refine (List.map_congr_left fun r hr => ?_).trans (List.map_id _)
  obtain ⟨hl, hv⟩ := h r hr
  rw [List.map_congr_left fun p hp => applyMask_lt p.2 p.1 (hv p hp)]
  exact List.map_fst_zip (Nat.le_of_eq hl)

/-- whenever the layout is accepted, the reader maps one row of `rowBytes ws` bytes per event -/
theorem totalBytes_eq (dt : DType) (n : Nat) (ws : List Nat) (hL : LayoutOk dt ws) :
    totalBytes dt n ws = n * rowBytes ws := by
  cases dt with
  | I =>
    cases hu : isUniform ws with
    | false => simp [totalBytes, hu]
    | true =>
      obtain ⟨w, -, hw⟩ := (isUniform_iff ws).mp hu
      have hne : ws.length ≠ 0 := by simpa [LayoutOk, hu] using hL
      rw [totalBytes, if_pos hu, hw, headD_replicate hne, rowBytes_replicate, List.length_replicate, Nat.mul_assoc]
  | F | D =>
    rw [List.eq_replicate_iff.mpr ⟨rfl, hL⟩, totalBytes, rowBytes_replicate, List.length_replicate, Nat.mul_assoc]
  | A | other => exact hL.elim

/-- **Integer DATA segments round-trip at the matrix level**, for every accepted vector of widths: decoding the bytes of any number of
events (including none) returns the events, row by row, in order — column by column in the `upcast` container when the widths are
mixed, by aligned reads when they are uniform (8/16/32/64 bits). -/
theorem decodeInt_encodeEvents (be : Bool) (ws : List Nat) (m : List (List Nat)) (hL : LayoutOk .I ws) (hm : WellFormed ws m) :
    decodeInt be ws m.length (encodeEvents be ws m) none = m := by
  cases hu : isUniform ws with
  | false =>
    have h8 : ∀ w ∈ ws, w % 8 = 0 := by simp only [LayoutOk, hu] at hL; exact hL.1
    simp only [decodeInt, hu, Bool.false_eq_true, if_false]
    exact map_chunks_encode be ws m _ (fun r hr => (hm r hr).1) fun r hr => by
      simpa using decodeRowMixed_encodeRow be ws r [] (hm r hr).1 h8 (le_upcastBits ws) (hm r hr).2
  | true =>
    obtain ⟨w, hw4, hw⟩ := (isUniform_iff ws).mp hu
    have hD : ws.length ≠ 0 := by simpa [LayoutOk, hu] using hL
    generalize ws.length = D at hw hD; subst hw
    simp only [decodeInt, hu, if_true, headD_replicate hD, List.length_replicate]
    exact uniform_rows be D w m hm (by rcases hw4 with rfl | rfl | rfl | rfl <;> rfl)

end FlowCal.C01
