import FlowCalModel.File
/-!
# C01 / C16 — the HEADER written by a conforming writer is read back exactly

`digitsOf n` is the ASCII decimal numeral of `n`; `field8 n` the right-justified 8-character HEADER field.
-/
namespace FlowCal.C01
open FlowCal.Py FlowCal.File

/-- ASCII decimal numeral, most significant digit first -/
def digitsOf (n : Nat) : List Nat :=
  if h : n < 10 then [48 + n] else digitsOf (n / 10) ++ [48 + n % 10]
termination_by n
decreasing_by omega

theorem digitsOf_lt (n : Nat) (h : n < 10) : digitsOf n = [48 + n] := by
  rw [digitsOf]; simp [h]

theorem digitsOf_ge (n : Nat) (h : 10 ≤ n) : digitsOf n = digitsOf (n / 10) ++ [48 + n % 10] := by
  rw [digitsOf]; simp [Nat.not_lt.mpr h]

theorem isDigit_add (d : Nat) (h : d < 10) : isDigit (48 + d) = true := by simp [isDigit]; omega

theorem digitsOf_isDigit (n : Nat) : ∀ c ∈ digitsOf n, isDigit c = true := by
  induction n using digitsOf.induct with
  | case1 n h => rw [digitsOf_lt n h]; simpa using isDigit_add n h
  | case2 n h ih =>
    rw [digitsOf_ge n (by omega)]
    simpa [or_imp, forall_and] using ⟨ih, isDigit_add _ (Nat.mod_lt _ (by omega))⟩

/-- a numeral begins with a digit -/
theorem digitsOf_cons (n : Nat) : ∃ c cs, digitsOf n = c :: cs ∧ isDigit c = true := by
  induction n using digitsOf.induct with
  | case1 n h => exact ⟨_, [], digitsOf_lt n h, isDigit_add n h⟩
  | case2 n h ih =>
    obtain ⟨c, cs, hl, hc⟩ := ih
    exact ⟨c, cs ++ _, by rw [digitsOf_ge n (by omega), hl]; rfl, hc⟩

/-- one step of the accumulator loop on a digit -/
theorem go_cons_digit {acc c : Nat} {l : List Nat} (hc : isDigit c = true) :
    digitsVal.go acc (c :: l) = digitsVal.go (acc * 10 + (c - 48)) l := by
  have hc95 : c ≠ 95 := by rintro rfl; simp [isDigit] at hc
  rw [digitsVal.go.eq_def]
  split
  · rename_i heq; simp at heq
  · rename_i heq; simp at heq; omega
  · rename_i heq; cases heq; simp [hc]

/-- the accumulator loop on a run of digits followed by one more digit -/
theorem go_append_digit (acc : Nat) (ds : List Nat) (d : Nat) (hds : ∀ c ∈ ds, isDigit c = true) (hd : isDigit d = true) :
    digitsVal.go acc (ds ++ [d]) = (digitsVal.go acc ds).map (fun a => a * 10 + (d - 48)) := by
  induction ds generalizing acc with
  | nil => rw [List.nil_append, go_cons_digit hd]; rfl
  | cons c cs ih =>
    have hc := hds c (by simp)
    rw [List.cons_append, go_cons_digit hc, go_cons_digit hc, ih _ fun x hx => hds x (by simp [hx])]

theorem go_digitsOf_tail (acc n : Nat) (hn : 10 ≤ n) :
    digitsVal.go acc (digitsOf n) = (digitsVal.go acc (digitsOf (n / 10))).map (fun a => a * 10 + n % 10) := by
  rw [digitsOf_ge n hn, go_append_digit acc _ _ (digitsOf_isDigit _) (isDigit_add _ (Nat.mod_lt _ (by omega))), Nat.add_sub_cancel_left]

/-- the loop reads the numeral of `n` behind an accumulator `0` as `n` -/
theorem go_digitsOf (n : Nat) : digitsVal.go 0 (digitsOf n) = some n := by
  induction n using digitsOf.induct with
  | case1 n h => rw [digitsOf_lt n h, go_cons_digit (isDigit_add n h)]; simp [digitsVal.go]
  | case2 n h ih =>
    rw [go_digitsOf_tail 0 n (by omega), ih]
    simp only [Option.map_some, Option.some.injEq]; omega

/-- reading the numeral of `n` gives `n` -/
theorem digitsVal_digitsOf (n : Nat) : digitsVal (digitsOf n) = some n := by
  obtain ⟨c, cs, hl, hc⟩ := digitsOf_cons n
  rw [← go_digitsOf n, hl, go_cons_digit hc]
  simp [digitsVal, hc]

theorem digitsOf_length_le (k n : Nat) (hk : 0 < k) (h : n < 10 ^ k) : (digitsOf n).length ≤ k := by
  induction k generalizing n with
  | zero => omega
  | succ k ih =>
    by_cases h10 : n < 10
    · rw [digitsOf_lt n h10]; exact Nat.succ_le_succ (Nat.zero_le k)
    · have hk' : 0 < k := Nat.pos_of_ne_zero (by rintro rfl; exact h10 h)
      rw [digitsOf_ge n (by omega), List.length_append]
      exact Nat.succ_le_succ (ih (n / 10) hk' (by rw [Nat.pow_succ] at h; omega))

theorem dropWhile_replicate_append (sp : Nat → Bool) (hsp : sp 32 = true) (k : Nat) (l : List Nat) :
    (List.replicate k 32 ++ l).dropWhile sp = l.dropWhile sp := by
  induction k with
  | zero => rfl
  | succ k ih => simp [List.replicate_succ, hsp, ih]

theorem dropWhile_of_head (sp : Nat → Bool) (l : List Nat) (h : ∀ c, l.head? = some c → sp c = false) : l.dropWhile sp = l := by
  cases l with
  | nil => rfl
  | cons c cs => simp [h c rfl]

/-- blanks around a non-empty string without blanks are stripped, and nothing else -/
theorem stripBy_padded (sp : Nat → Bool) (hsp : sp 32 = true) (ds : List Nat) (hne : ds ≠ []) (hds : ∀ c ∈ ds, sp c = false) (a b : Nat) :
    stripBy sp (List.replicate a 32 ++ ds ++ List.replicate b 32) = ds := by
  unfold stripBy
  rw [List.append_assoc, dropWhile_replicate_append sp hsp, dropWhile_of_head sp (ds ++ _) fun c hc => hds c ?_, List.reverse_append,
    List.reverse_replicate, dropWhile_replicate_append sp hsp, dropWhile_of_head sp _ fun c hc => hds c ?_, List.reverse_reverse]
  · exact List.mem_reverse.1 (List.mem_of_head? hc)
  · cases ds with
    | nil => exact absurd rfl hne
    | cons x xs => cases hc; simp

/-- a numeral padded with blanks on either side is read as its value, by `int(bytes)` and by `int(str)` -/
theorem pyIntCore_padded (sp : Nat → Bool) (hsp : sp 32 = true) (hdig : ∀ c, isDigit c = true → sp c = false)
    (n a b : Nat) : pyIntCore sp (List.replicate a 32 ++ digitsOf n ++ List.replicate b 32) = some (n : Int) := by
  obtain ⟨c, cs, hl, hc⟩ := digitsOf_cons n
  unfold pyIntCore
  rw [stripBy_padded sp hsp _ (hl ▸ List.cons_ne_nil c cs) (fun c hc => hdig c (digitsOf_isDigit n c hc))]
  have hv := digitsVal_digitsOf n
  rw [hl] at hv ⊢
  -- the first character is a digit, not a sign
  split
  · rename_i heq; cases heq; simp [isDigit] at hc
  · rename_i heq; cases heq; simp [isDigit] at hc
  · simp [hv]

theorem digit_not_space (c : Nat) (hc : isDigit c = true) : isSpaceBytes c = false ∧ isSpaceStr c = false := by
  simp [isDigit] at hc; simp [isSpaceStr, isSpaceBytes]; omega

theorem pyIntBytes_padded (n a b : Nat) : pyIntBytes (List.replicate a 32 ++ digitsOf n ++ List.replicate b 32) = .ok (n : Int) := by
  unfold pyIntBytes
  rw [pyIntCore_padded isSpaceBytes (by decide) fun c hc => (digit_not_space c hc).1]

theorem pyIntStr_padded (n a b : Nat) : pyIntStr (List.replicate a 32 ++ digitsOf n ++ List.replicate b 32) = .ok (n : Int) := by
  unfold pyIntStr
  rw [pyIntCore_padded isSpaceStr (by decide) fun c hc => (digit_not_space c hc).2]

/-- the 8-character right-justified HEADER field -/
def field8 (n : Nat) : List Nat := List.replicate (8 - (digitsOf n).length) 32 ++ digitsOf n

theorem field8_length (n : Nat) (h : n < 10 ^ 8) : (field8 n).length = 8 := by
  have := digitsOf_length_le 8 n (by decide) h
  simp [field8]; omega

theorem field8_ne_spaces (n : Nat) : (field8 n == spaces8) = false := by
  obtain ⟨c, cs, hl, hc⟩ := digitsOf_cons n
  refine beq_false_of_ne fun h => ?_
  have hs : c ∈ spaces8 := h ▸ List.mem_append_right _ (hl ▸ List.mem_cons_self)
  cases (List.mem_replicate.1 hs).2
  exact absurd hc (by decide)

theorem rstrip_padded (v : List Nat) (k : Nat) (hv : ∀ c, v.getLast? = some c → isSpaceStr c = false) :
    rstrip (v ++ List.replicate k 32) = v := by
  unfold rstrip
  rw [List.reverse_append, List.reverse_replicate, dropWhile_replicate_append _ (by decide),
    dropWhile_of_head _ _ fun c hc => hv c (by rwa [List.getLast?_eq_head?_reverse]), List.reverse_reverse]

/-- the 58-byte HEADER a conforming writer produces -/
def encodeHeader (h : Header) : List Nat :=
  h.version ++ List.replicate (10 - h.version.length) 32 ++ field8 h.textBegin.toNat ++ field8 h.textEnd.toNat ++
    field8 h.dataBegin.toNat ++ field8 h.dataEnd.toNat ++ field8 h.analysisBegin.toNat ++ field8 h.analysisEnd.toNat

/-- offsets that fit the 8-character fields, a version string without trailing blank -/
def Writable (h : Header) : Prop :=
  h.version.length ≤ 10 ∧ (∀ c, h.version.getLast? = some c → isSpaceStr c = false) ∧
  (∀ x ∈ [h.textBegin, h.textEnd, h.dataBegin, h.dataEnd, h.analysisBegin, h.analysisEnd], 0 ≤ x ∧ x < 10 ^ 8)

/-- field `i` of a record of `c`-byte fields that follows a prefix `V` -/
theorem take_drop_flatten {α} (V : List α) (Fs : List (List α)) (rest : List α) (c : Nat) (hF : ∀ F ∈ Fs, F.length = c)
    (i : Nat) (F : List α) (hi : Fs[i]? = some F) : ((V ++ (Fs.flatten ++ rest)).drop (V.length + c * i)).take c = F := by
  induction Fs generalizing V i with
  | nil => cases hi
  | cons G Fs ih =>
    have hc := hF G (by simp)
    cases i with
    | zero => cases hi; simp [List.take_left' hc]
    | succ i =>
      have := ih (V ++ G) (fun G hG => hF G (by simp [hG])) i (by simpa using hi)
      simpa [hc, Nat.mul_succ, Nat.add_assoc, Nat.add_comm, Nat.add_left_comm] using this

theorem field8_read (x : Int) (h0 : 0 ≤ x) : pyIntBytes (field8 x.toNat) = .ok x ∧ pyIntStr (field8 x.toNat) = .ok x := by
  rw [show field8 x.toNat = _ ++ digitsOf x.toNat ++ List.replicate 0 32 from (List.append_nil _).symm, pyIntBytes_padded, pyIntStr_padded,
    Int.toNat_of_nonneg h0]
  exact ⟨rfl, rfl⟩

/-- **The HEADER round-trips**: whatever follows it in the file, the reader recovers the version and all six offsets. -/
theorem parseHeader_encodeHeader (h : Header) (rest : List Nat) (hw : Writable h) :
    parseHeader (encodeHeader h ++ rest) = .ok h := by
  obtain ⟨hvl, hvs, hoff⟩ := hw
  have hV : (h.version ++ List.replicate (10 - h.version.length) 32).length = 10 := by simp; omega
  have hs := rstrip_padded h.version (10 - h.version.length) hvs
  generalize hVdef : h.version ++ List.replicate (10 - h.version.length) 32 = V at hV hs
  -- the HEADER is `V` followed by six 8-byte fields
  have hfile : encodeHeader h ++ rest = V ++
      (([h.textBegin, h.textEnd, h.dataBegin, h.dataEnd, h.analysisBegin, h.analysisEnd].map fun x => field8 x.toNat).flatten ++ rest) := by
    simp only [encodeHeader, ← hVdef, List.map, List.flatten_cons, List.flatten_nil, List.append_assoc, List.append_nil]
  have hF : ∀ F ∈ [h.textBegin, h.textEnd, h.dataBegin, h.dataEnd, h.analysisBegin, h.analysisEnd].map fun x => field8 x.toNat, F.length = 8 :=
    List.forall_mem_map.2 fun x hx => field8_length x.toNat (by have := hoff x hx; omega)
  -- the `i`-th offset `x`: its field is found at `10 + 8 * i` and read back as `x`
  have f (i : Nat) (x : Int) (hi : [h.textBegin, h.textEnd, h.dataBegin, h.dataEnd, h.analysisBegin, h.analysisEnd][i]? = some x) :
      ((encodeHeader h ++ rest).drop (10 + 8 * i)).take 8 = field8 x.toNat ∧
        pyIntBytes (field8 x.toNat) = .ok x ∧ pyIntStr (field8 x.toNat) = .ok x := by
    rw [hfile, ← hV]
    exact ⟨take_drop_flatten V _ rest 8 hF i _ (by rw [List.getElem?_map, hi]; rfl), field8_read x (hoff x (List.mem_of_getElem? hi)).1⟩
  unfold parseHeader
  simp only [hfile ▸ List.take_left' hV, f 0 _ rfl, f 1 _ rfl, f 2 _ rfl, f 3 _ rfl, f 4 _ rfl, f 5 _ rfl, hs, field8_ne_spaces,
    Bool.false_eq_true, if_false, bind, Except.bind, pure, Except.pure]

/-- non-vacuity: the HEADER of the 156-byte file used in `Properties.C16c` -/
example : Writable ⟨[70, 67, 83, 50, 46, 48], 58, 153, 154, 155, 0, 0⟩ :=
  ⟨by decide, fun c hc => by cases hc; decide, by decide⟩

/-- the spec-side encoder produces byte for byte the HEADER that the harness's independent (Python) writer produced for that file -/
example : encodeHeader ⟨[70, 67, 83, 50, 46, 48], 58, 153, 154, 155, 0, 0⟩ =
    [70, 67, 83, 50, 46, 48, 32, 32, 32, 32, 32, 32, 32, 32, 32, 32, 53, 56, 32, 32, 32, 32, 32, 49, 53, 51, 32, 32, 32, 32, 32, 49, 53, 52,
     32, 32, 32, 32, 32, 49, 53, 53, 32, 32, 32, 32, 32, 32, 32, 48, 32, 32, 32, 32, 32, 32, 32, 48] := by decide +kernel

end FlowCal.C01
