import Properties.C16b
import Properties.C14b
/-!
# C16 (continued) — one statement about the whole of `loadFile`: a file that loads physically contains the DATA extent
that its own HEADER / keywords declare; hence every cut before the end of DATA is refused
-/
namespace FlowCal.C16
open FlowCal.Data FlowCal.Py FlowCal.File FlowCal.C01

/-- a successful DATA stage means: the offsets were found, are non-negative, and `read_fcs_data_segment` succeeded on them -/
theorem loadData_ok (file : Bytes) (h : Header) (k : Keywords) (L : Loaded) (hL : loadData file h k = .ok L) :
    L.text = k.text ∧ ∃ db de tot : Int, dataOffsets h k.text = .ok (db, de) ∧ 0 ≤ db ∧ 0 ≤ de ∧ 0 ≤ tot ∧
      readData file db.toNat de.toNat (dtypeOf k.dts) tot.toNat (k.ws.map Int.toNat) k.big (some (k.bits.map (·.getD 0))) = .ok L.data := by
  obtain ⟨db, de, tot, data, ho, _, ⟨h0, h1, h2⟩, _, _, hr, rfl⟩ := loadData_eq_ok_iff.1 hL
  exact ⟨rfl, db, de, tot, ho, h1, h2, h0, hr⟩

theorem loadFile_ok (file : Bytes) (L : Loaded) (hL : loadFile file = .ok L) :
    ∃ h t k, parseHeader file = .ok h ∧ readTextSeg file h.textBegin h.textEnd none false = .ok t ∧
      loadKeywords file h t = .ok k ∧ loadData file h k = .ok L :=
  loadFile_eq_ok_iff.1 hL

/-- a segment whose size matches its extent (under either end convention) and which lies inside `len` bytes ends inside them -/
theorem end_le_of_extent {db de : Int} {need len : Nat} (hde : 0 ≤ de)
    (hsz : (need = de.toNat + 1 - db.toNat ∧ db.toNat ≤ de.toNat + 1) ∨ (need = de.toNat - db.toNat ∧ db.toNat ≤ de.toNat))
    (hin : db.toNat + need ≤ len) : de ≤ len := by
  -- a statement about the naturals `de.toNat`, `db.toNat`
  rw [← Int.toNat_of_nonneg hde]
  generalize de.toNat = e at hsz
  generalize db.toNat = b at hsz hin
  omega

/-- what a successful load says about the file: the stages succeeded, the offsets and `$TOT` are non-negative, the bytes `$TOT` and
the `$PnB` imply equal the declared extent (under either end convention), they lie inside the file, and `$TOT` events are returned -/
theorem loadFile_ok_extent {file : Bytes} {L : Loaded} (hL : loadFile file = .ok L) :
    ∃ (h : Header) (t : Dict × Option Nat × Bool) (k : Keywords) (db de tot : Int), parseHeader file = .ok h ∧
      readTextSeg file h.textBegin h.textEnd none false = .ok t ∧ loadKeywords file h t = .ok k ∧ L.text = k.text ∧
      dataOffsets h k.text = .ok (db, de) ∧ intKw k.text "$TOT" = .ok tot ∧ (0 ≤ tot ∧ 0 ≤ db ∧ 0 ≤ de) ∧
      (let need := totalBytes (dtypeOf k.dts) tot.toNat (k.ws.map Int.toNat)
       (need = de.toNat + 1 - db.toNat ∧ db.toNat ≤ de.toNat + 1) ∨ (need = de.toNat - db.toNat ∧ db.toNat ≤ de.toNat)) ∧
      db.toNat + totalBytes (dtypeOf k.dts) tot.toNat (k.ws.map Int.toNat) ≤ file.length ∧ L.data.length = tot.toNat := by
  obtain ⟨h, t, k, hh, ht, hk, hd⟩ := loadFile_eq_ok_iff.1 hL
  obtain ⟨db, de, tot, data, ho, htot, h0, _, _, hr, rfl⟩ := loadData_eq_ok_iff.1 hd
  obtain ⟨hsz, hin, _, hlen⟩ := readData_ok file db.toNat de.toNat _ _ _ _ _ _ hr
  exact ⟨h, t, k, db, de, tot, hh, ht, hk, rfl, ho, htot, h0, hsz, hin, hlen⟩

/-- **Every file that loads contains the whole DATA extent it declares**: the offsets found by the documented rule
(HEADER, else `$BEGINDATA`/`$ENDDATA` of the merged keywords that the load returns) are non-negative and the end offset does
not exceed the length of the file. -/
theorem loaded_file_contains_declared_data (file : Bytes) (L : Loaded) (hL : loadFile file = .ok L) :
    ∃ h db de, parseHeader file = .ok h ∧ dataOffsets h L.text = .ok (db, de) ∧ 0 ≤ db ∧ 0 ≤ de ∧ de ≤ (file.length : Int) := by
  obtain ⟨h, _, k, db, de, tot, hh, _, _, htext, hoff, _, ⟨_, hdb, hde⟩, hsz, hin, _⟩ := loadFile_ok_extent hL
  exact ⟨h, db, de, hh, htext ▸ hoff, hdb, hde, end_le_of_extent hde hsz hin⟩

/-- if the cut file loads at all, the end of DATA declared by its HEADER or — for files whose HEADER leaves the DATA offsets to the
keywords (large files) — by the `$ENDDATA` of the keywords it returns lies inside what is left of the file -/
theorem cut_file_loads_only_with_data_inside (file : Bytes) (n : Nat) (L : Loaded) (hL : loadFile (file.take n) = .ok L) :
    ∃ h db de, parseHeader (file.take n) = .ok h ∧ dataOffsets h L.text = .ok (db, de) ∧ de ≤ (n : Int) := by
  obtain ⟨h, db, de, hh, hoff, _, _, hlen⟩ := loaded_file_contains_declared_data _ L hL
  refine ⟨h, db, de, hh, hoff, ?_⟩
  simp only [List.length_take] at hlen
  omega

/-- **A file cut before the end of the DATA segment its HEADER declares cannot be loaded**, wherever TEXT, supplemental TEXT
and ANALYSIS lie and whatever they contain. -/
theorem cut_before_data_end_fails (file : Bytes) (n : Nat) (h : Header) (h58 : 58 ≤ n)
    (hh : parseHeader file = .ok h) (hb : h.dataBegin ≠ 0) (he : h.dataEnd ≠ 0) (hcut : (n : Int) < h.dataEnd) :
    ∃ err, loadFile (file.take n) = .error err := by
  cases hL : loadFile (file.take n) with
  | error err => exact ⟨err, rfl⟩
  | ok L =>
    exfalso
    obtain ⟨h', db, de, hh', hoff, hle⟩ := cut_file_loads_only_with_data_inside file n L hL
    rw [parseHeader_take file n h58, hh] at hh'
    cases hh'
    have : dataOffsets h L.text = .ok (h.dataBegin, h.dataEnd) := by
      unfold dataOffsets
      simp [hb, he]
    rw [this] at hoff
    cases hoff
    omega

/-- **A file loads only if its declarations are consistent**: the number of bytes implied by `$TOT` and the `$PnB` equals the
declared DATA extent or the extent minus one (the tolerated one-past-the-end convention), and the load then returns exactly `$TOT`
events — whatever else the file contains. A corrupted `$TOT`, `$PAR`, `$PnB` or DATA offset that breaks this is refused. -/
theorem loaded_file_is_consistent (file : Bytes) (L : Loaded) (hL : loadFile file = .ok L) :
    ∃ (h : Header) (k : Keywords) (db de tot : Int), parseHeader file = .ok h ∧ dataOffsets h L.text = .ok (db, de) ∧ 0 ≤ tot ∧
      (let need := totalBytes (dtypeOf k.dts) tot.toNat (k.ws.map Int.toNat)
       (need = de.toNat + 1 - db.toNat ∧ db.toNat ≤ de.toNat + 1) ∨ (need = de.toNat - db.toNat ∧ db.toNat ≤ de.toNat)) ∧
      L.data.length = tot.toNat := by
  obtain ⟨h, _, k, db, de, tot, hh, _, _, htext, hoff, _, ⟨htot, _, _⟩, hsz, _, hlen⟩ := loadFile_ok_extent hL
  exact ⟨h, k, db, de, tot, hh, htext ▸ hoff, htot, hsz, hlen⟩

/-- reading a whole TEXT-like segment that lies inside the first `n` bytes gives the same result on the file cut at `n` -/
theorem readTextSeg_take (file : Bytes) (n : Nat) (b e : Int) (d : Option (Option Nat)) (supp : Bool)
    (hb : 0 ≤ b) (hbe : b ≤ e) (hin : e + 1 ≤ n) :
    readTextSeg (file.take n) b e d supp = readTextSeg file b e d supp := by
  unfold readTextSeg
  have hd : resolveDelim (file.take n) b d supp = resolveDelim file b d supp := by
    unfold resolveDelim
    cases d with
    | none =>
      cases supp with
      | true => rfl
      | false => simp only [Bool.false_eq_true, if_false]; rw [readAt_take file n b 1 hb (by omega) (by omega)]
    | some c => cases c <;> rfl
  rw [hd]
  cases resolveDelim file b d supp with
  | error err => rfl
  | ok dd => exact readTextBody_take file n b e dd supp hb (by omega) hin

/-- the merge of primary and supplemental keywords is the same on the cut file when the supplemental segment the primary keywords
declare (if any) lies inside the first `n` bytes -/
theorem mergeText_take (file : Bytes) (n : Nat) (h : Header) (t : Dict × Option Nat × Bool)
    (hs : ∀ sb se, intKw t.1 "$BEGINSTEXT" = .ok sb → intKw t.1 "$ENDSTEXT" = .ok se → sb ≠ 0 → se ≠ 0 → 0 ≤ sb ∧ sb ≤ se ∧ se + 1 ≤ n) :
    mergeText (file.take n) h t = mergeText file h t := by
  obtain ⟨text0, delim, w0⟩ := t
  unfold mergeText
  dsimp only
  cases hsb : intKw text0 "$BEGINSTEXT" with
  | error err => rfl
  | ok sb =>
    cases hse : intKw text0 "$ENDSTEXT" with
    | error err => rfl
    | ok se =>
      by_cases hnz : sb ≠ 0 ∧ se ≠ 0
      · obtain ⟨h1, h2, h3⟩ := hs sb se hsb hse hnz.1 hnz.2
        simp only [readTextSeg_take file n sb se _ true h1 h2 h3]
      · have : (sb != 0 && se != 0) = false := by simpa using hnz
        simp only [this, Bool.false_eq_true, if_false]

/-- all that `loadData` uses of the keywords is the same for the cut file, when the declared supplemental TEXT segment is intact -/
theorem loadKeywords_take {file : Bytes} {n : Nat} {h : Header} {t : Dict × Option Nat × Bool} {k k' : Keywords}
    (hs : ∀ sb se, intKw t.1 "$BEGINSTEXT" = .ok sb → intKw t.1 "$ENDSTEXT" = .ok se → sb ≠ 0 → se ≠ 0 → 0 ≤ sb ∧ sb ≤ se ∧ se + 1 ≤ n)
    (hk : loadKeywords file h t = .ok k) (hk' : loadKeywords (file.take n) h t = .ok k') :
    k'.text = k.text ∧ k'.dts = k.dts ∧ k'.ws = k.ws ∧ k'.big = k.big ∧ k'.bits = k.bits := by
  obtain ⟨_, _, _, _, _, _, _, _, _, _, hm, hc, _, hb, rfl⟩ := loadKeywords_eq_ok_iff.1 hk
  obtain ⟨_, _, _, _, _, _, _, _, _, _, hm', hc', _, hb', rfl⟩ := loadKeywords_eq_ok_iff.1 hk'
  rw [mergeText_take file n h t hs, hm] at hm'; cases hm'
  rw [hc] at hc'; cases hc'
  rw [hb] at hb'; cases hb'
  exact ⟨rfl, rfl, rfl, rfl, rfl⟩

/-- what a cut file that still loads must contain, in terms of the intact file's keywords: the end of DATA and all `$TOT` events -/
theorem cut_file_extent {file : Bytes} {n : Nat} {L' : Loaded} (hL' : loadFile (file.take n) = .ok L')
    {h : Header} {t : Dict × Option Nat × Bool} {k : Keywords} (h58 : 58 ≤ n)
    (hh : parseHeader file = .ok h) (ht : readTextSeg file h.textBegin h.textEnd none false = .ok t)
    (hk : loadKeywords file h t = .ok k)
    (htb : 0 ≤ h.textBegin) (hte : h.textBegin ≤ h.textEnd) (htn : h.textEnd + 1 ≤ n)
    (hs : ∀ sb se, intKw t.1 "$BEGINSTEXT" = .ok sb → intKw t.1 "$ENDSTEXT" = .ok se → sb ≠ 0 → se ≠ 0 → 0 ≤ sb ∧ sb ≤ se ∧ se + 1 ≤ n) :
    ∃ db de tot : Int, dataOffsets h k.text = .ok (db, de) ∧ intKw k.text "$TOT" = .ok tot ∧ de ≤ n ∧
      db.toNat + totalBytes (dtypeOf k.dts) tot.toNat (k.ws.map Int.toNat) ≤ n := by
  -- the cut file passes the same HEADER and primary TEXT stages as the intact one
  obtain ⟨h', t', k', hh', ht', hk', hd'⟩ := loadFile_eq_ok_iff.1 hL'
  rw [parseHeader_take file n h58, hh] at hh'; cases hh'
  rw [readTextSeg_take file n h.textBegin h.textEnd none false htb hte htn, ht] at ht'; cases ht'
  obtain ⟨hkt, hdts, hws, _, _⟩ := loadKeywords_take hs hk hk'
  obtain ⟨db, de, tot, data, ho, htot, ⟨_, _, hde⟩, _, _, hr, _⟩ := loadData_eq_ok_iff.1 hd'
  obtain ⟨hsz, hin, _, _⟩ := readData_ok _ _ _ _ _ _ _ _ _ hr
  rw [hkt] at ho htot
  rw [hdts, hws] at hsz hin
  have hin := Nat.le_trans hin (List.length_take_le n file)
  exact ⟨db, de, tot, ho, htot, end_le_of_extent hde hsz hin, hin⟩

/-- **A file cut before the end of the DATA segment that its own keywords declare cannot be loaded** (HEADER offsets zero or not):
for an intact file that loads, every cut `n` that leaves the HEADER, the primary TEXT segment and the declared supplemental TEXT
segment intact but ends before the declared end of DATA is refused. -/
theorem cut_before_declared_data_end_fails (file : Bytes) (n : Nat) (L : Loaded) (hL : loadFile file = .ok L)
    (h : Header) (t : Dict × Option Nat × Bool) (db de : Int) (h58 : 58 ≤ n)
    (hh : parseHeader file = .ok h) (ht : readTextSeg file h.textBegin h.textEnd none false = .ok t)
    (htb : 0 ≤ h.textBegin) (hte : h.textBegin ≤ h.textEnd) (htn : h.textEnd + 1 ≤ n)
    (hs : ∀ sb se, intKw t.1 "$BEGINSTEXT" = .ok sb → intKw t.1 "$ENDSTEXT" = .ok se → sb ≠ 0 → se ≠ 0 → 0 ≤ sb ∧ sb ≤ se ∧ se + 1 ≤ n)
    (hoff : dataOffsets h L.text = .ok (db, de)) (hcut : (n : Int) < de) :
    ∃ err, loadFile (file.take n) = .error err := by
  cases hL' : loadFile (file.take n) with
  | error err => exact ⟨err, rfl⟩
  | ok L' =>
    exfalso
    obtain ⟨h1, t1, k, hh1, ht1, hk, hd⟩ := loadFile_ok file L hL
    rw [hh] at hh1; cases hh1
    rw [ht] at ht1; cases ht1
    obtain ⟨db', de', _, hoff', _, hde, _⟩ := cut_file_extent hL' h58 hh ht hk htb hte htn hs
    rw [← (loadData_ok file h k L hd).1, hoff] at hoff'
    cases hoff'
    omega

/-! ### the premises are satisfiable: a complete 156-byte FCS2.0 file with two one-byte events (written by the harness's independent writer) -/

def tinyFile : List Nat := [70, 67, 83, 50, 46, 48, 32, 32, 32, 32, 32, 32, 32, 32, 32, 32, 53, 56, 32, 32, 32, 32, 32, 49, 53, 51, 32, 32, 32, 32, 32, 49, 53, 52, 32, 32, 32, 32, 32, 49, 53, 53, 32, 32, 32, 32, 32, 32, 32, 48, 32, 32, 32, 32, 32, 32, 32, 48, 47, 36, 66, 89, 84, 69, 79, 82, 68, 47, 49, 44, 50, 44, 51, 44, 52, 47, 36, 68, 65, 84, 65, 84, 89, 80, 69, 47, 73, 47, 36, 77, 79, 68, 69, 47, 76, 47, 36, 78, 69, 88, 84, 68, 65, 84, 65, 47, 48, 47, 36, 80, 65, 82, 47, 49, 47, 36, 84, 79, 84, 47, 50, 47, 36, 80, 49, 66, 47, 56, 47, 36, 80, 49, 78, 47, 65, 47, 36, 80, 49, 82, 47, 50, 53, 54, 47, 36, 80, 49, 69, 47, 48, 44, 48, 47, 7, 9]

example : (loadFile tinyFile).toOption.map (·.data) = some [[7], [9]] := by decide +kernel
example : parseHeader tinyFile = .ok ⟨[70, 67, 83, 50, 46, 48], 58, 153, 154, 155, 0, 0⟩ := by decide +kernel
/-- the two last cuts, one of which (`n = 155 = dataEnd`) lies outside `cut_before_data_end_fails` because of the tolerated
one-past-the-end convention and is covered by `truncated_data_fails` -/
example : (loadFile (tinyFile.take 154)).toOption = none ∧ (loadFile (tinyFile.take 155)).toOption = none := by decide +kernel

end FlowCal.C16
