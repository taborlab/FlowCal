import FlowCalModel.Text
/-!
# C14 — TEXT keywords and values are returned exactly as written, or rejected

Theorems about the model `FlowCal.Text.parseSeg` of `read_fcs_text_segment`.

Every string is `J d ps ++ tl`: pieces `ps`, each followed by a delimiter, and a delimiter-free trailer; the pieces
can be chosen delimiter-free (`exists_pieces`).  On that form `parseSeg` is `finish` of the scan of the split pieces of
`ps` (`parseSeg_J`).  Soundness takes delimiter-free pieces, which are their own split, and is an invariant of the scan
over them (`scan_inv`); completeness writes `d^k ++ render d toks` as `J d (replicate k [] ++ toks.map (esc d))` and
computes the scan over the split of an escaped token (`scan_valid_token`).
-/
namespace FlowCal.C14
open FlowCal.Text

set_option linter.unusedSectionVars false
variable {α : Type} [DecidableEq α]

/-- every piece followed by the delimiter (reducible, so that the `flatMap` simp lemmas apply to it) -/
abbrev J (d : α) (ps : List (List α)) : List α := ps.flatMap (· ++ [d])

@[simp] theorem split_nil (d : α) : split d [] = [[]] := rfl

theorem split_of_not_mem {d : α} {s : List α} (h : d ∉ s) : split d s = [s] := by
  induction s with
  | nil => rfl
  | cons c s ih =>
    have ⟨hc, hs⟩ := List.ne_and_not_mem_of_not_mem_cons h
    simpa [split, splitAux, hc.symm] using ih hs

theorem split_append_delim (d : α) (a b : List α) :
    split d (a ++ d :: b) = split d a ++ split d b := by
  induction a with
  | nil => simp [split, splitAux]
  | cons c a ih =>
    simp only [split, splitAux, List.cons_append] at ih ⊢
    by_cases h : c = d <;> simp_all

theorem split_J (d : α) (ps : List (List α)) (t : List α) :
    split d (J d ps ++ t) = ps.flatMap (split d) ++ split d t := by
  induction ps with
  | nil => rfl
  | cons p ps ih => simp [split_append_delim, ih]

theorem split_replicate_append (d : α) (m : Nat) (s : List α) :
    split d (List.replicate m d ++ s) = List.replicate m [] ++ split d s := by
  simpa [List.flatMap_replicate] using split_J d (List.replicate m []) s

theorem flatMap_split {d : α} {ps : List (List α)} (h : ∀ p ∈ ps, d ∉ p) : ps.flatMap (split d) = ps := by
  induction ps with
  | nil => rfl
  | cons p ps ih =>
    have ⟨hp, hps⟩ := List.forall_mem_cons.1 h
    simp [split_of_not_mem hp, ih hps]

theorem exists_pieces (d : α) (s : List α) :
    ∃ ps t, (∀ p ∈ ps, d ∉ p) ∧ d ∉ t ∧ s = J d ps ++ t := by
  induction s with
  | nil => exact ⟨[], [], nofun, nofun, rfl⟩
  | cons c s ih =>
    obtain ⟨ps, t, hps, ht, rfl⟩ := ih
    by_cases hc : d = c
    · exact ⟨[] :: ps, t, List.forall_mem_cons.2 ⟨nofun, hps⟩, ht, hc ▸ rfl⟩
    · cases ps with
      | nil => exact ⟨[], c :: t, nofun, List.not_mem_cons_of_ne_of_not_mem hc ht, rfl⟩
      | cons p ps =>
        have ⟨hp, hps⟩ := List.forall_mem_cons.1 hps
        exact ⟨(c :: p) :: ps, t,
          List.forall_mem_cons.2 ⟨List.not_mem_cons_of_ne_of_not_mem hc hp, hps⟩, ht, rfl⟩

theorem splitLast_not_mem {d : α} {s : List α} (h : d ∉ s) : splitLast d s = none := by
  induction s with
  | nil => rfl
  | cons c s ih =>
    have ⟨hc, hs⟩ := List.ne_and_not_mem_of_not_mem_cons h
    simp [splitLast, ih hs, hc.symm]

theorem splitLast_append {d : α} {b tl : List α} (h : d ∉ tl) :
    splitLast d (b ++ d :: tl) = some (b, tl) := by
  induction b with
  | nil => simp [splitLast, splitLast_not_mem h]
  | cons c b ih => simp [splitLast, ih]

theorem finish_eq_ok_iff {supp : Bool} {st : ScanState α} {p : Parsed α} :
    finish supp st = .ok p ↔ st.k ≤ 1 ∧ st.acc.length % 2 = 0 ∧ p = ⟨st.acc, st.warned⟩ := by
  by_cases hk : st.k ≥ 2
  · have : ¬ st.k ≤ 1 := by omega
    cases supp <;> simp [finish, hk, this] <;> split <;> simp
  · have : st.k ≤ 1 := by omega
    by_cases hl : st.acc.length % 2 = 0 <;> simp [finish, hk, hl, this, eq_comm]

theorem parseSeg_J {d : α} (supp : Bool) (ps : List (List α)) {tl : List α} (htl : d ∉ tl) :
    parseSeg d supp (J d ps ++ tl) =
      if supp = false ∧ J d ps ++ tl ≠ [] ∧ (J d ps ++ tl).head? ≠ some d then .error .notStartDelim
      else finish supp (scan d (ps.flatMap (split d))) := by
  rcases List.eq_nil_or_concat ps with rfl | ⟨qs, p, rfl⟩
  · have hh : tl.head? ≠ some d := fun h => htl (List.mem_of_head? h)
    cases supp <;> simp [parseSeg, splitLast_not_mem htl, hh, finish, scan, init]
  · have hseg : J d (qs ++ [p]) ++ tl = (J d qs ++ p) ++ d :: tl := by simp
    simp only [List.concat_eq_append, hseg, parseSeg, splitLast_append htl, split_J]
    cases supp <;> simp

/-- A supplemental segment without any delimiter is an empty dictionary. -/
theorem supplemental_no_delim (d : α) (seg : List α) (h : d ∉ seg) :
    parseSeg d true seg = .ok ⟨[], false⟩ := by
  simpa [finish, scan, init] using parseSeg_J true [] h

/-- A primary segment that does not start with the delimiter is refused. -/
theorem primary_must_start_with_delim (d : α) (seg : List α) (hne : seg ≠ []) (h : seg.head? ≠ some d) :
    parseSeg d false seg = .error .notStartDelim := by
  simp [parseSeg, hne, h]

/-- An odd number of tokens is refused (never silently re-paired). -/
theorem odd_refused (d : α) (supp : Bool) (seg : List α) (p : Parsed α)
    (h : parseSeg d supp seg = .ok p) : p.toks.length % 2 = 0 := by
  obtain ⟨ps, tl, -, htl, rfl⟩ := exists_pieces d seg
  rw [parseSeg_J supp ps htl] at h
  split at h
  · cases h
  · obtain ⟨-, hev, rfl⟩ := finish_eq_ok_iff.1 h
    exact hev

theorem esc_no_delim {d : α} {e : List α} (h : d ∉ e) : esc d e = e := by
  induction e with
  | nil => rfl
  | cons c e ih =>
    have ⟨hc, he⟩ := List.ne_and_not_mem_of_not_mem_cons h
    simpa [esc, hc.symm] using ih he

@[simp] theorem esc_append (d : α) (a b : List α) : esc d (a ++ b) = esc d a ++ esc d b := by
  simp [esc]

@[simp] theorem esc_cons_delim (d : α) (t : List α) : esc d (d :: t) = d :: d :: esc d t := by
  simp [esc]

@[simp] theorem esc_replicate (d : α) (n : Nat) : esc d (List.replicate n d) = List.replicate (2 * n) d := by
  induction n with
  | zero => rfl
  | succ n ih => simpa [List.replicate_succ, Nat.mul_succ] using ih

@[simp] theorem render_nil (d : α) : render d [] = [] := rfl

@[simp] theorem render_cons (d : α) (t : List α) (ts : List (List α)) :
    render d (t :: ts) = esc d t ++ d :: render d ts := by
  simp [render]

theorem step_nil (d : α) (st : ScanState α) : step d [] st = { st with k := st.k + 1 } := rfl

theorem step_even {d : α} {e : List α} (he : e ≠ []) (n : Nat) (acc : List (List α)) (w : Bool) :
    step d e ⟨2 * n, acc, w⟩ = ⟨0, (e ++ List.replicate n d) :: acc, w⟩ := by
  cases n <;> simp [step, he]

theorem step_odd {d : α} {e : List α} (he : e ≠ []) (n : Nat) (t : List α) (r : List (List α)) (w : Bool) :
    step d e ⟨2 * n + 1, t :: r, w⟩ = ⟨0, (e ++ List.replicate (n + 1) d ++ t) :: r, w⟩ := by
  simp [step, he]; omega

theorem step_warn {d : α} {e : List α} (he : e ≠ []) (n : Nat) (w : Bool) :
    step d e ⟨2 * n + 1, [], w⟩ = ⟨0, [e], true⟩ := by
  simp [step, he]

theorem replicate_append_cons (d : α) (m : Nat) (l : List α) :
    List.replicate m d ++ d :: l = d :: (List.replicate m d ++ l) := by
  induction m <;> simp_all [List.replicate_succ]

theorem valid_of_no_delim {d : α} {e : List α} (hne : e ≠ []) (hd : d ∉ e) (x : List α) : Valid d (e ++ x) := by
  cases e with
  | nil => exact absurd rfl hne
  | cons c e => exact ⟨by simp, by simpa [eq_comm] using List.ne_of_not_mem_cons hd⟩

/-- The scan invariant: as long as no warning has been issued, the pieces consumed so far, each followed by a
delimiter, spell `k` delimiters followed by the FCS escaping of `acc`. -/
def Inv (d : α) (ps : List (List α)) (st : ScanState α) : Prop :=
  st.warned = false →
    J d ps = List.replicate st.k d ++ render d st.acc ∧ ∀ t ∈ st.acc, Valid d t

theorem step_inv {d : α} {e : List α} {ps : List (List α)} {st : ScanState α}
    (he : d ∉ e) (h : Inv d ps st) : Inv d (e :: ps) (step d e st) := by
  obtain ⟨k, acc, w⟩ := st
  by_cases hnil : e = []
  · subst hnil
    exact fun hw => ⟨by simp [step_nil, (h hw).1, List.replicate_succ], (h hw).2⟩
  have hv := valid_of_no_delim hnil he
  have he := esc_no_delim he
  obtain ⟨n, rfl | rfl⟩ : ∃ n, k = 2 * n ∨ k = 2 * n + 1 := ⟨k / 2, by omega⟩
  · rw [step_even hnil]
    exact fun hw => ⟨by simp [(h hw).1, he, replicate_append_cons], List.forall_mem_cons.2 ⟨hv _, (h hw).2⟩⟩
  · cases acc with
    | nil => exact step_warn hnil n w ▸ nofun
    | cons t r =>
      rw [step_odd hnil]
      exact fun hw => ⟨by simp [(h hw).1, he, List.replicate_succ],
        List.forall_mem_cons.2 ⟨by simpa using hv _, (List.forall_mem_cons.1 (h hw).2).2⟩⟩

theorem scan_inv {d : α} {ps : List (List α)} (hps : ∀ p ∈ ps, d ∉ p) : Inv d ps (scan d ps) := by
  induction ps with
  | nil => simp [Inv, scan, init]
  | cons e ps ih =>
    have ⟨he, hps⟩ := List.forall_mem_cons.1 hps
    exact step_inv he (ih hps)

theorem render_head_ne {d : α} {toks : List (List α)} {tl : List α}
    (hV : ∀ t ∈ toks, Valid d t) (htl : d ∉ tl) : (render d toks ++ tl).head? ≠ some d := by
  rcases toks with _ | ⟨_ | ⟨c, t⟩, ts⟩
  · exact fun h => htl (List.mem_of_head? h)
  · exact absurd rfl (hV _ List.mem_cons_self).1
  · have : c ≠ d := by simpa using (hV _ List.mem_cons_self).2
    simp [esc, this]

/-- **Soundness** (no silent re-pairing).  Whenever the model of
`read_fcs_text_segment` accepts a non-empty segment containing the delimiter
without a warning, the segment *is* the FCS escaping of the returned tokens: up
to and including its last delimiter it reads `d^k ++ render toks` with `k ≤ 1`
(`k = 1` for a primary segment), what follows contains no delimiter, every
token is a legal keyword/value (non-empty, not starting with the delimiter), and
they pair up. -/
theorem sound (d : α) (supp : Bool) (seg : List α) (toks : List (List α))
    (hne : seg ≠ []) (hd : d ∈ seg)
    (h : parseSeg d supp seg = .ok ⟨toks, false⟩) :
    ∃ k tail, k ≤ 1 ∧ seg = List.replicate k d ++ render d toks ++ tail ∧ d ∉ tail ∧
      (∀ t ∈ toks, Valid d t) ∧ toks.length % 2 = 0 ∧ (supp = false → k = 1) := by
  obtain ⟨ps, tl, hps, htl, rfl⟩ := exists_pieces d seg
  rw [parseSeg_J supp ps htl, flatMap_split hps] at h
  split at h
  · cases h
  rename_i hhead
  obtain ⟨hk, hev, hp⟩ := finish_eq_ok_iff.1 h
  obtain ⟨rfl, hw⟩ := Parsed.mk.inj hp
  obtain ⟨hJ, hV⟩ := scan_inv hps hw.symm
  refine ⟨_, tl, hk, by rw [hJ], htl, hV, hev, ?_⟩
  rintro rfl
  -- a primary segment starts with `d`, which no rendered list of legal tokens does
  refine Decidable.by_contra fun hk1 => hhead ⟨rfl, hne, ?_⟩
  have hk0 : (scan d ps).k = 0 := by omega
  rw [hJ, hk0]
  simpa using render_head_ne hV htl

theorem scan_append (d : α) (ps qs : List (List α)) :
    scan d (ps ++ qs) = ps.foldr (step d) (scan d qs) := by
  simp [scan]

theorem foldr_step_replicate (d : α) (m : Nat) (st : ScanState α) :
    (List.replicate m []).foldr (step d) st = { st with k := m + st.k } := by
  induction m with
  | zero => simp
  | succ m ih => simp [List.replicate_succ, ih, step_nil]; omega

/-- The pieces of the escaping of `q ++ d^(n+1) ++ u`, for a delimiter-free `q`, are `q`, then `2n+1` empty
pieces, then the pieces of the escaping of `u`. -/
theorem scan_esc_piece {d : α} {q : List α} (hq : d ∉ q) (n : Nat) (u : List α) (st : ScanState α) :
    (split d (esc d (q ++ List.replicate (n + 1) d ++ u))).foldr (step d) st =
      step d q ((List.replicate (2 * n + 1) []).foldr (step d) ((split d (esc d u)).foldr (step d) st)) := by
  -- of the `2n+2` delimiters after `q`, `split_append_delim` cuts at the first, `split_replicate_append` takes the rest
  simp [esc_no_delim hq, Nat.mul_succ, List.replicate_succ (n := 2 * n + 1), split_append_delim,
    split_of_not_mem hq, split_replicate_append]

/-- Induction on what is still to be read of the token, `u`; what has been read is a first piece `q` and the
`n` delimiters after it. -/
theorem scan_token_aux {d : α} {acc : List (List α)} {w : Bool} (u q : List α) (n : Nat) (hq : q ≠ []) (hd : d ∉ q) :
    (split d (esc d (q ++ List.replicate n d ++ u))).foldr (step d) ⟨0, acc, w⟩ =
      ⟨0, (q ++ List.replicate n d ++ u) :: acc, w⟩ := by
  induction u generalizing q n with
  | nil =>
    cases n with
    | zero => simpa [esc_no_delim hd, split_of_not_mem hd] using step_even hq 0 acc w
    | succ n =>
      rw [scan_esc_piece hd, foldr_step_replicate]
      simpa [esc, step_nil, Nat.mul_succ] using step_even hq (n + 1) acc w
  | cons c u ih =>
    by_cases hc : c = d
    · subst hc
      simpa [List.replicate_succ'] using ih q (n + 1) hq hd
    · cases n with
      | zero => simpa using ih (q ++ [c]) 0 (by simp) (by simp [hd, Ne.symm hc])
      | succ n =>
        have ih' := ih [c] 0 (by simp) (by simp [Ne.symm hc])
        simp only [List.replicate_zero, List.append_nil, List.singleton_append] at ih'
        rw [scan_esc_piece hd, ih', foldr_step_replicate]
        simpa using step_odd hq n (c :: u) acc w

theorem scan_valid_token {d : α} {t : List α} {acc : List (List α)} {w : Bool} (hv : Valid d t) :
    (split d (esc d t)).foldr (step d) ⟨0, acc, w⟩ = ⟨0, t :: acc, w⟩ := by
  match t, hv with
  | [], hv => exact absurd rfl hv.1
  | c :: t, hv => simpa using scan_token_aux t [c] 0 (by simp) (by simpa [eq_comm] using hv.2)

theorem scan_render {d : α} {toks : List (List α)} (hV : ∀ t ∈ toks, Valid d t) :
    scan d ((toks.map (esc d)).flatMap (split d)) = ⟨0, toks, false⟩ := by
  induction toks with
  | nil => rfl
  | cons t ts ih =>
    have ⟨ht, hts⟩ := List.forall_mem_cons.1 hV
    rw [List.map_cons, List.flatMap_cons, scan_append, ih hts, scan_valid_token ht]

/-- **Completeness**: the converse of `sound`. -/
theorem complete (d : α) (supp : Bool) (k : Nat) (toks : List (List α)) (tail : List α)
    (hV : ∀ t ∈ toks, Valid d t) (heven : toks.length % 2 = 0) (htail : d ∉ tail)
    (hk : k ≤ 1) (hs : supp = false → k = 1) :
    parseSeg d supp (List.replicate k d ++ render d toks ++ tail) = .ok ⟨toks, false⟩ := by
  have hseg : List.replicate k d ++ render d toks = J d (List.replicate k [] ++ toks.map (esc d)) := by
    simp [render, List.flatMap_map, List.flatMap_replicate]
  have hscan : scan d ((List.replicate k [] ++ toks.map (esc d)).flatMap (split d)) = ⟨k, toks, false⟩ := by
    simp [List.flatMap_replicate, scan_append, scan_render hV, foldr_step_replicate]
  rw [hseg, parseSeg_J supp _ htail, hscan, if_neg, finish_eq_ok_iff.2 ⟨hk, heven, rfl⟩]
  rintro ⟨rfl, -, hh⟩
  simp [hs rfl] at hh

/-- **Completeness, primary segments.**  For every delimiter, every even-length
list of legal tokens (non-empty, not starting with the delimiter — they may
contain or end with delimiters) and every delimiter-free trailer, the segment
written by the FCS escaping rule is read back as exactly those tokens, without
a warning. -/
theorem complete_primary (d : α) (toks : List (List α)) (tail : List α)
    (hV : ∀ t ∈ toks, Valid d t) (heven : toks.length % 2 = 0) (htail : d ∉ tail) :
    parseSeg d false (encode d toks ++ tail) = .ok ⟨toks, false⟩ :=
  complete d false 1 toks tail hV heven htail (Nat.le_refl 1) fun _ => rfl

/-- **Completeness, supplemental / ANALYSIS segments** (with or without a leading delimiter). -/
theorem complete_supplemental (d : α) (toks : List (List α)) (tail : List α) (lead1 : Bool)
    (hV : ∀ t ∈ toks, Valid d t) (heven : toks.length % 2 = 0) (htail : d ∉ tail) :
    parseSeg d true ((if lead1 then [d] else []) ++ render d toks ++ tail) = .ok ⟨toks, false⟩ := by
  have := complete d true lead1.toNat toks tail hV heven htail (Bool.toNat_le lead1) nofun
  cases lead1 <;> exact this

theorem lookup_insert (k k' v : List α) (m : List (List α × List α)) :
    dictLookup k (dictInsert k' v m) = if k' = k then some v else dictLookup k m := by
  induction m with
  | nil => simp [dictInsert, dictLookup]
  | cons kv m ih =>
    by_cases h0 : kv.1 = k' <;> by_cases h : k' = k <;> simp_all [dictInsert, dictLookup]

/-- value of the last pair with key `k` in `s` -/
def lastVal (k : List α) : List (List α × List α) → Option (List α)
  | [] => none
  | (k', v) :: rest => match lastVal k rest with
    | some v' => some v'
    | none => if k' = k then some v else none

/-- **Merge.** After `primary.update(supplemental)` a keyword maps to its
supplemental value if the supplemental segment defines it (the last definition
wins) and to its primary value otherwise. -/
theorem merge_spec (k : List α) (p s : List (List α × List α)) :
    dictLookup k (dictUpdate p s) = (lastVal k s).orElse (fun _ => dictLookup k p) := by
  unfold dictUpdate
  induction s generalizing p with
  | nil => simp [lastVal]
  | cons kv s ih =>
    simp only [List.foldl_cons, ih, lastVal, lookup_insert]
    cases lastVal k s <;> by_cases h : kv.1 = k <;> simp [h]

/-- A dictionary built from the parsed pairs maps every keyword to the value of its last occurrence. -/
theorem toDict_spec (k : List α) (ps : List (List α × List α)) :
    dictLookup k (toDict ps) = lastVal k ps := by
  simpa [dictUpdate, toDict, dictLookup] using merge_spec k [] ps

/-! ## Non-vacuity: concrete segments from the test-suite, evaluated by the kernel -/

-- '/' = 47, 'k' = 107, 'v' = 118, '1' = 49
example : parseSeg 47 false [47,107,47,47,49,47,47,47,118,47]   -- /k//1///v/
    = .ok ⟨[[107,47,49,47],[118]], false⟩ := by decide +kernel
example : encode 47 [[107,47,49,47],[118]] = [47,107,47,47,49,47,47,47,118,47] := by decide +kernel
example : Valid 47 [107,47,49,47] ∧ Valid 47 [118] := by decide +kernel
example : parseSeg 47 false [47,107,47,118,47,47] = .ok ⟨[[107],[118]], true⟩ := by decide +kernel  -- /k/v// warns
example : parseSeg 47 false [47,47,107,47,118,47] = .error .illFormed := by decide +kernel            -- //k/v/
example : parseSeg 47 false [47,107,47] = .error .oddCount := by decide +kernel                        -- /k/
example : parseSeg 47 true [107,47,118,47] = .ok ⟨[[107],[118]], false⟩ := by decide +kernel          -- k/v/

end FlowCal.C14
