/-!
# `Except` as a monad of partial results: what `>>=` and `List.mapM` mean for "succeeds with"

The models raise through `Except PyErr`.  Every proof about them needs the same three facts: `>>=` runs the continuation on an `ok`
and stops at an `error`; a `mapM` succeeds with `r` exactly when `f` succeeds entrywise with the entries of `r`
(`l.map f = r.map .ok`, which hands length, entries and membership to the `List.map` lemmas); and a computation built from
`>>=`, `mapM` and non-raising parts does not raise.
-/
namespace FlowCal.Exc
variable {ε α β : Type}

@[simp] theorem ok_bind (a : α) (f : α → Except ε β) : (Except.ok a >>= f) = f a := rfl
@[simp] theorem pure_eq_ok (a : α) : (pure a : Except ε α) = .ok a := rfl

theorem bind_eq_ok {x : Except ε α} {f : α → Except ε β} {b : β} :
    (x >>= f) = .ok b ↔ ∃ a, x = .ok a ∧ f a = .ok b := by
  cases x <;> simp [bind, Except.bind]

/-- `x` does not raise (the statement `∃ a, x = .ok a` of the "never raises" theorems, by definition) -/
def Total (x : Except ε α) : Prop := ∃ a, x = .ok a

theorem Total.ok (a : α) : Total (.ok a : Except ε α) := ⟨a, rfl⟩

theorem Total.bind {x : Except ε α} {f : α → Except ε β} (hx : Total x) (hf : ∀ a, Total (f a)) : Total (x >>= f) := by
  obtain ⟨a, rfl⟩ := hx; exact hf a

variable {f : α → Except ε β} {l : List α} {r : List β}

theorem mapM_eq_ok : l.mapM f = .ok r ↔ l.map f = r.map .ok := by
  induction l generalizing r with
  | nil => cases r <;> simp
  | cons a l ih => cases r <;> simp [bind_eq_ok, ih]

theorem length_of_mapM_ok (h : l.mapM f = .ok r) : r.length = l.length := by
  simpa using (congrArg List.length (mapM_eq_ok.mp h)).symm

theorem getElem_of_mapM_ok (h : l.mapM f = .ok r) (i : Nat)
    (hl : i < l.length) (hr : i < r.length) : f l[i] = .ok r[i] := by
  have := mapM_eq_ok.mp h
  rw [← List.getElem_map f (h := by simpa using hl), List.getElem_of_eq this, List.getElem_map]

theorem mem_of_mapM_ok (h : l.mapM f = .ok r) {b : β} (hb : b ∈ r) :
    ∃ a ∈ l, f a = .ok b := by
  have := List.mem_map_of_mem (f := Except.ok (ε := ε)) hb
  rwa [← mapM_eq_ok.mp h, List.mem_map] at this

theorem mapM_total (h : ∀ a ∈ l, Total (f a)) : Total (l.mapM f) := by
  induction l with
  | nil => exact ⟨[], rfl⟩
  | cons a l ih =>
    rw [List.mapM_cons]
    exact (h a List.mem_cons_self).bind fun b => (ih fun a ha => h a (List.mem_cons_of_mem _ ha)).bind fun r => .ok _

end FlowCal.Exc
