import Properties.C16c
/-!
# C16 (continued) — the last byte: a file loads only if the bytes of all its events are physically present, so any cut that
removes at least one byte of the events is refused — under either end-offset convention (this closes the `n = dataEnd` case
that `cut_before_data_end_fails` leaves to the DATA reader)
-/
namespace FlowCal.C16
open FlowCal.Data FlowCal.Py FlowCal.File FlowCal.C01

/-- the layout part of the keywords is a function of the merged dictionary alone -/
theorem loadKeywords_layout (file : Bytes) (h : Header) (t : Dict × Option Nat × Bool) (k : Keywords)
    (hk : loadKeywords file h t = .ok k) :
    ∃ par nd, checkLayout k.text = .ok (k.dts, par, k.ws, k.big, nd) ∧ readBits k.text par = .ok k.bits := by
  obtain ⟨_, _, _, par, _, _, nd, _, _, _, _, hc, _, hb, rfl⟩ := loadKeywords_eq_ok_iff.1 hk
  exact ⟨par, nd, hc, hb⟩

/-- a successful DATA stage, with the `$TOT` it used -/
theorem loadData_ok' (file : Bytes) (h : Header) (k : Keywords) (L : Loaded) (hL : loadData file h k = .ok L) :
    ∃ db de tot : Int, dataOffsets h k.text = .ok (db, de) ∧ intKw k.text "$TOT" = .ok tot ∧ 0 ≤ db ∧ 0 ≤ de ∧ 0 ≤ tot ∧
      readData file db.toNat de.toNat (dtypeOf k.dts) tot.toNat (k.ws.map Int.toNat) k.big (some (k.bits.map (·.getD 0))) = .ok L.data := by
  obtain ⟨db, de, tot, data, ho, ht, ⟨h0, h1, h2⟩, _, _, hr, rfl⟩ := loadData_eq_ok_iff.1 hL
  exact ⟨db, de, tot, ho, ht, h1, h2, h0, hr⟩

/-- **A file that loads physically contains every byte of its events**: the `$TOT`·(event size) bytes that follow the declared
beginning of DATA lie inside the file. -/
theorem loaded_file_contains_its_events (file : Bytes) (L : Loaded) (hL : loadFile file = .ok L) :
    ∃ (h : Header) (t : Dict × Option Nat × Bool) (k : Keywords) (db de tot : Int), parseHeader file = .ok h ∧
      readTextSeg file h.textBegin h.textEnd none false = .ok t ∧ loadKeywords file h t = .ok k ∧
      dataOffsets h k.text = .ok (db, de) ∧ intKw k.text "$TOT" = .ok tot ∧
      db.toNat + totalBytes (dtypeOf k.dts) tot.toNat (k.ws.map Int.toNat) ≤ file.length := by
  obtain ⟨h, t, k, db, de, tot, hh, ht, hk, _, hoff, htot, _, _, hin, _⟩ := loadFile_ok_extent hL
  exact ⟨h, t, k, db, de, tot, hh, ht, hk, hoff, htot, hin⟩

/-- **Any cut that removes a byte of the events is refused.**  If the intact file's keywords pass the layout checks, and the cut leaves the HEADER, the
primary TEXT segment and the declared supplemental TEXT segment intact, then a cut anywhere before the end of the last event
(`n < begin of DATA + $TOT · event size`) makes the load fail — whichever end-offset convention the file uses, wherever its offsets are
declared. -/
theorem cut_inside_events_fails (file : Bytes) (n : Nat)
    (h : Header) (t : Dict × Option Nat × Bool) (k : Keywords) (db de tot : Int) (h58 : 58 ≤ n)
    (hh : parseHeader file = .ok h) (ht : readTextSeg file h.textBegin h.textEnd none false = .ok t)
    (hk : loadKeywords file h t = .ok k)
    (htb : 0 ≤ h.textBegin) (hte : h.textBegin ≤ h.textEnd) (htn : h.textEnd + 1 ≤ n)
    (hs : ∀ sb se, intKw t.1 "$BEGINSTEXT" = .ok sb → intKw t.1 "$ENDSTEXT" = .ok se → sb ≠ 0 → se ≠ 0 → 0 ≤ sb ∧ sb ≤ se ∧ se + 1 ≤ n)
    (hoff : dataOffsets h k.text = .ok (db, de)) (htot : intKw k.text "$TOT" = .ok tot)
    (hcut : n < db.toNat + totalBytes (dtypeOf k.dts) tot.toNat (k.ws.map Int.toNat)) :
    ∃ err, loadFile (file.take n) = .error err := by
  cases hL' : loadFile (file.take n) with
  | error err => exact ⟨err, rfl⟩
  | ok L' =>
    exfalso
    obtain ⟨db', de', tot', hoff', htot', _, hin⟩ := cut_file_extent hL' h58 hh ht hk htb hte htn hs
    rw [hoff] at hoff'; cases hoff'
    rw [htot] at htot'; cases htot'
    omega

/-- the tiny file of C16c, cut at `n = 155 = dataEnd` (one byte short under its last-byte convention): outside
`cut_before_data_end_fails`, inside this theorem (`154 + 2·1 = 156 > 155`) -/
example : 155 < (154 : Int).toNat + totalBytes DType.I (2 : Int).toNat ([8].map id) := by decide

end FlowCal.C16
