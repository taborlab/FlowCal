import FlowCalModel.Mef
import FlowCalModel.GeneratedExpr
import Mathlib.Data.Real.Basic
import Mathlib.Tactic.NormNum
/-!
# C02 — a subpopulation whose events pile up at a detector limit takes no part in the fit

`selection_std` compares, in the rescaled (display) coordinate, the mean of each subpopulation minus / plus a
multiple of its standard deviation with two thresholds placed 1.5 % inside the rescaled range limits.
The formulas are translated from the source on every run (`GeneratedExpr.src_threshold_*`, `src_reach_*`).
-/
namespace FlowCal.C02
open FlowCal FlowCal.Mef

theorem source_threshold_low_eq {β : Type} [Add β] [Sub β] [Mul β] [OfScientific β] (s0 s1 : β) :
    GeneratedExpr.src_threshold_low s0 s1 = thresholdLow s0 s1 := rfl
theorem source_threshold_high_eq {β : Type} [Add β] [Sub β] [Mul β] [OfScientific β] (s0 s1 : β) :
    GeneratedExpr.src_threshold_high s0 s1 = thresholdHigh s0 s1 := rfl
theorem source_reach_low_eq {β : Type} [Add β] [Sub β] [Mul β] [OfScientific β] (n mean std : β) :
    GeneratedExpr.src_reach_low n mean std = reachLow n mean std := rfl
theorem source_reach_high_eq {β : Type} [Add β] [Sub β] [Mul β] [OfScientific β] (n mean std : β) :
    GeneratedExpr.src_reach_high n mean std = reachHigh n mean std := rfl

/-- going a larger fraction of the way from `s0` to `s1` gets further -/
theorem lerp_lt_lerp {s0 s1 t u : ℝ} (h : s0 < s1) (htu : t < u) : s0 + t * (s1 - s0) < s0 + u * (s1 - s0) :=
  add_lt_add_right (mul_lt_mul_of_pos_right htu (sub_pos.2 h)) s0

/-- the default thresholds lie strictly inside the (rescaled) range, the lower one below the upper one -/
theorem thresholds_inside (s0 s1 : ℝ) (h : s0 < s1) :
    s0 < thresholdLow s0 s1 ∧ thresholdLow s0 s1 < thresholdHigh s0 s1 ∧ thresholdHigh s0 s1 < s1 := by
  -- the fractions `0 < 0.015 < 0.985 < 1` of the way from `s0` to `s1`
  have h0 := lerp_lt_lerp h (show (0 : ℝ) < 0.015 by norm_num)
  have h1 := lerp_lt_lerp h (show (0.985 : ℝ) < 1 by norm_num)
  rw [zero_mul, add_zero] at h0
  rw [one_mul, add_sub_cancel] at h1
  exact ⟨h0, lerp_lt_lerp h (by norm_num), h1⟩

/-- **Piled up at the upper limit ⇒ not selected**: a subpopulation whose mean (in the rescaled coordinate) is at or above the
upper range limit is dropped, for every non-negative standard deviation and every non-negative `n_std_high`. -/
theorem piled_high_excluded (s0 s1 nLow nHigh mean std : ℝ) (h : s0 < s1) (hm : s1 ≤ mean) (hs : 0 ≤ std) (hn : 0 ≤ nHigh) :
    ¬ Selected (thresholdLow s0 s1) (thresholdHigh s0 s1) nLow nHigh mean std := fun hsel =>
  -- `mean ≤ mean + nHigh·std < upper threshold < s1 ≤ mean`
  (hsel.2.trans ((thresholds_inside s0 s1 h).2.2.trans_le hm)).not_ge (le_add_of_nonneg_right (mul_nonneg hn hs))

/-- **Piled up at the lower limit ⇒ not selected.** -/
theorem piled_low_excluded (s0 s1 nLow nHigh mean std : ℝ) (h : s0 < s1) (hm : mean ≤ s0) (hs : 0 ≤ std) (hn : 0 ≤ nLow) :
    ¬ Selected (thresholdLow s0 s1) (thresholdHigh s0 s1) nLow nHigh mean std := fun hsel =>
  -- `mean ≤ s0 < lower threshold < mean - nLow·std ≤ mean`
  ((hm.trans_lt (thresholds_inside s0 s1 h).1).trans hsel.1).not_ge (sub_le_self mean (mul_nonneg hn hs))

/-- more generally: whatever lies within `n·std` of a threshold (on the outer side) is dropped, and a subpopulation that keeps
`n·std` clear of both thresholds is kept — the mask is exactly this predicate -/
theorem selected_iff (low high nLow nHigh mean std : ℝ) :
    Selected low high nLow nHigh mean std ↔ low + nLow * std < mean ∧ mean < high - nHigh * std := by
  simp only [Selected, reachLow, reachHigh, gt_iff_lt, lt_sub_iff_add_lt]

/-- the same statements for the formulas found in the source -/
theorem source_piled_high_excluded (s0 s1 nLow nHigh mean std : ℝ) (h : s0 < s1) (hm : s1 ≤ mean) (hs : 0 ≤ std) (hn : 0 ≤ nHigh) :
    ¬ (GeneratedExpr.src_reach_low nLow mean std > GeneratedExpr.src_threshold_low s0 s1 ∧
       GeneratedExpr.src_reach_high nHigh mean std < GeneratedExpr.src_threshold_high s0 s1) :=
  piled_high_excluded s0 s1 nLow nHigh mean std h hm hs hn

theorem source_piled_low_excluded (s0 s1 nLow nHigh mean std : ℝ) (h : s0 < s1) (hm : mean ≤ s0) (hs : 0 ≤ std) (hn : 0 ≤ nLow) :
    ¬ (GeneratedExpr.src_reach_low nLow mean std > GeneratedExpr.src_threshold_low s0 s1 ∧
       GeneratedExpr.src_reach_high nHigh mean std < GeneratedExpr.src_threshold_high s0 s1) :=
  piled_low_excluded s0 s1 nLow nHigh mean std h hm hs hn

/-- non-vacuity: on a display range [0, 4.5] a subpopulation at 2 with spread 0.05 is selected, one at 4.5 is not -/
example : Selected (thresholdLow (0 : ℝ) 4.5) (thresholdHigh 0 4.5) 2.5 2.5 2 0.05 := by
  unfold Selected thresholdLow thresholdHigh reachLow reachHigh; constructor <;> norm_num

end FlowCal.C02
