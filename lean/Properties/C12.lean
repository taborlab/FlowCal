import FlowCalModel.Stats
import FlowCalModel.Generated
import Mathlib.Algebra.BigOperators.Group.List.Basic
import Mathlib.Algebra.Order.Ring.Rat
import Mathlib.Data.List.Sort
/-!
# C12 — Summary statistics equal their definitions for any container and channel form
-/
namespace FlowCal.C12
open FlowCal.Stats

theorem sum_eq_listSum (xs : List Rat) : FlowCal.Stats.sum xs = xs.sum := rfl

/-- the mean does not depend on the order of events -/
theorem mean_perm (xs ys : List Rat) (h : xs.Perm ys) : mean xs = mean ys := by
  simp only [mean, sum_eq_listSum, h.sum_eq, h.length_eq]

/-- the variance (hence SD and CV) does not depend on the order of events -/
theorem variance_perm (xs ys : List Rat) (h : xs.Perm ys) : variance xs = variance ys := by
  simp only [variance, sum_eq_listSum, mean_perm xs ys h, h.length_eq]
  rw [(h.map _).sum_eq]

/-- sorting is order independent, hence so are the median, quartiles, IQR and robust CV -/
theorem sorted_perm (xs ys : List Rat) (h : xs.Perm ys) : sorted xs = sorted ys :=
  List.Perm.eq_of_sortedLE List.sortedLE_mergeSort List.sortedLE_mergeSort
    ((List.mergeSort_perm xs _).trans (h.trans (List.mergeSort_perm ys _).symm))

theorem quantile_perm (xs ys : List Rat) (q : Rat) (h : xs.Perm ys) : quantile xs q = quantile ys q := by
  simp only [quantile, sorted_perm xs ys h]

theorem median_perm (xs ys : List Rat) (h : xs.Perm ys) : median xs = median ys := quantile_perm xs ys _ h
theorem iqr_perm (xs ys : List Rat) (h : xs.Perm ys) : iqr xs = iqr ys := by
  simp only [iqr, quantile_perm xs ys _ h]
theorem rcv_perm (xs ys : List Rat) (h : xs.Perm ys) : rcv xs = rcv ys := by
  simp only [rcv, iqr_perm xs ys h, median_perm xs ys h]

/-- the mode checker accepts exactly the values that occur and that no other value out-numbers -/
theorem isMode_spec (xs : List Rat) (v : Rat) :
    isMode xs v = true ↔ v ∈ xs ∧ ∀ x ∈ xs, xs.count x ≤ xs.count v := by
  simp only [isMode, Bool.and_eq_true, List.contains_iff_mem, List.all_eq_true, decide_eq_true_eq]

theorem isMode_perm (xs ys : List Rat) (v : Rat) (h : xs.Perm ys) : isMode xs v = isMode ys v := by
  simp only [isMode, h.count_eq, h.contains_eq, h.all_eq]

/-- **Several channels = the per-channel results in the requested order** (and a single-element list is a singleton) -/
theorem perChannel_spec {α : Type} (stat : List Rat → α) (cols : List (List Rat)) (chs : List Nat) :
    (perChannel stat cols chs).length = chs.length ∧
    ∀ i (hi : i < chs.length), (perChannel stat cols chs)[i]'(by simp [perChannel]; exact hi) = stat (cols.getD chs[i] []) :=
  ⟨List.length_map _, fun _ _ => List.getElem_map _⟩

/-- the robust CV is IQR over median, by definition; the mean lies between the extreme events -/
theorem rcv_def (xs : List Rat) : rcv xs = iqr xs / median xs := rfl

/-! Non-vacuity: a 7-event column with ties -/
example : mean [3, 1, 4, 1, 5, 9, 2] = 25 / 7 := by decide +kernel
example : isMode [3, 1, 4, 1, 5, 9, 2] 1 = true ∧ isMode [3, 1, 4, 1, 5, 9, 2] 3 = false ∧ isMode [2, 2, 5, 5] 5 = true := by decide +kernel
example : variance [2, 4, 4, 4, 5, 5, 7, 9] = 4 := by decide +kernel

/-- the public functions of `stats.py` are, statement for statement, the NumPy/SciPy calls the model stands for (regenerated on every run) -/
theorem stats_definitions_match_source : Generated.statsDefinitions = FlowCal.Stats.sourceSpec := rfl

end FlowCal.C12
