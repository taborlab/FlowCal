import Properties.C07
import Properties.C09
import Properties.C18
/-!
# C07 (continued) — the conversion laws are strictly increasing over the reals, so `gate_convert_comm` applies to them
-/
namespace FlowCal.C07
open FlowCal.C09

/-- log-amplifier law `a1 · 10^(a0/r · x)` -/
noncomputable def rfiLog (a0 a1 r x : ℝ) : ℝ := a1 * (10 : ℝ) ^ (a0 / r * x)

/-- linear-amplifier law `x / g` -/
noncomputable def rfiLin (g x : ℝ) : ℝ := x / g

theorem rfiLog_strictMono (a0 a1 r : ℝ) (h0 : 0 < a0) (h1 : 0 < a1) (hr : 0 < r) : StrictMono (rfiLog a0 a1 r) :=
  fun _ _ h => mul_lt_mul_of_pos_left (C18.pow10_strictMono (mul_lt_mul_of_pos_left h (div_pos h0 hr))) h1

theorem rfiLin_strictMono (g : ℝ) (hg : 0 < g) : StrictMono (rfiLin g) :=
  fun _ _ h => div_lt_div_of_pos_right h hg

/-- channel value 0 maps to `a1` (the offset of the log amplifier) -/
theorem rfiLog_zero (a0 a1 r : ℝ) : rfiLog a0 a1 r 0 = a1 := by simp [rfiLog]

/-- a strictly increasing real function is an order embedding in the sense used by `gate_convert_comm` -/
theorem orderEmb_of_strictMono (f : ℝ → ℝ) (h : StrictMono f) : OrderEmb f :=
  fun _ _ => h.lt_iff_lt.symm

/-- **Saturation gating commutes with RFI conversion** of a log-amplified channel, over the reals. -/
theorem gate_comm_rfiLog (s : FlowCal.Transform.Ranged ℝ) (c : Nat) (a0 a1 r : ℝ) (h0 : 0 < a0) (h1 : 0 < a1) (hr : 0 < r) :
    FlowCal.Transform.gateRows (FlowCal.Transform.convert c (rfiLog a0 a1 r) s) = FlowCal.Transform.gateRows s :=
  gate_convert_comm s c _ (orderEmb_of_strictMono _ (rfiLog_strictMono a0 a1 r h0 h1 hr))

theorem gate_comm_rfiLin (s : FlowCal.Transform.Ranged ℝ) (c : Nat) (g : ℝ) (hg : 0 < g) :
    FlowCal.Transform.gateRows (FlowCal.Transform.convert c (rfiLin g) s) = FlowCal.Transform.gateRows s :=
  gate_convert_comm s c _ (orderEmb_of_strictMono _ (rfiLin_strictMono g hg))

/-- … and with MEF conversion by any standard curve of positive slope (`sign(x)·exp(b)·|x|^m`). -/
theorem gate_comm_stdCurve (s : FlowCal.Transform.Ranged ℝ) (c : Nat) (m b : ℝ) (hm : 0 < m) :
    FlowCal.Transform.gateRows (FlowCal.Transform.convert c (sc m b) s) = FlowCal.Transform.gateRows s :=
  gate_convert_comm s c _ (orderEmb_of_strictMono _ (sc_strictMono m b hm))

end FlowCal.C07
