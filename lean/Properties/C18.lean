import FlowCalModel.Logicle
import Mathlib.Analysis.SpecialFunctions.Pow.Real
import Mathlib.Analysis.SpecialFunctions.Log.Base
/-!
# C18 — The logicle scale is a strictly increasing bijection with an accurate inverse
-/
namespace FlowCal.C18
open FlowCal.Logicle

noncomputable instance : Pow10 ℝ := ⟨fun x => (10 : ℝ) ^ x, fun x => Real.logb 10 x⟩

theorem pow10_def (x : ℝ) : pow10 x = (10 : ℝ) ^ x := rfl

theorem pow10_pos (x : ℝ) : 0 < (pow10 x : ℝ) := Real.rpow_pos_of_pos (by norm_num) x

theorem pow10_strictMono : StrictMono (pow10 : ℝ → ℝ) :=
  fun _ _ h => Real.rpow_lt_rpow_of_exponent_lt (by norm_num) h

theorem pow10_zero : (pow10 0 : ℝ) = 1 := Real.rpow_zero 10

theorem pow10_le_one {x : ℝ} (h : x ≤ 0) : (pow10 x : ℝ) ≤ 1 := pow10_zero ▸ pow10_strictMono.monotone h

theorem pow10_add (x y : ℝ) : (pow10 (x + y) : ℝ) = pow10 x * pow10 y := Real.rpow_add (by norm_num) x y

theorem pow10_log10 {x : ℝ} (hx : 0 < x) : (pow10 (log10 x) : ℝ) = x :=
  Real.rpow_logb (by norm_num) (by norm_num) hx

theorem log10_pow10 (x : ℝ) : (log10 (pow10 x) : ℝ) = x := Real.logb_rpow (by norm_num) (by norm_num)

theorem log10_lt {x y : ℝ} (hx : 0 < x) (h : x < y) : (log10 x : ℝ) < log10 y :=
  Real.logb_lt_logb (by norm_num) hx h

theorem log10_nonneg {x : ℝ} (hx : 1 ≤ x) : 0 ≤ (log10 x : ℝ) := Real.logb_nonneg (by norm_num) hx

/-- the two branches of the scale: `10^(s-W) - 1` rules to the right of `W`, `p²·(1 - 10^(-(s-W)/p))` to the left; both vanish
at `W` and increase with `s` -/
theorem logicle_split (T M W p s : ℝ) :
    logicle T M W p s = T * pow10 (-(M - W)) * ((pow10 (s - W) - 1) + p * p * (1 - pow10 (-(s - W) / p))) := by
  rw [logicle]; ring

/-- **The display value `W` is mapped to data value 0**, for every parameter choice. -/
theorem logicle_at_W (T M W p : ℝ) : logicle T M W p W = 0 := by
  simp [logicle_split, pow10_zero]

/-- **Strictly increasing in the display coordinate** for `T > 0`, `p > 0`. -/
theorem logicle_strictMono (T M W p : ℝ) (hT : 0 < T) (hp : 0 < p) : StrictMono (logicle T M W p) := by
  intro s t hst
  have h := sub_lt_sub_right hst W
  rw [logicle_split, logicle_split]
  refine mul_lt_mul_of_pos_left (add_lt_add_of_lt_of_le ?_ ?_) (mul_pos hT (pow10_pos _))
  · exact sub_lt_sub_right (pow10_strictMono h) 1
  · exact mul_le_mul_of_nonneg_left
      (sub_le_sub_left (pow10_strictMono (div_lt_div_of_pos_right (neg_lt_neg h) hp)).le 1) (mul_self_nonneg p)

/-- hence injective: a bijection onto its range -/
theorem logicle_injective (T M W p : ℝ) (hT : 0 < T) (hp : 0 < p) : Function.Injective (logicle T M W p) :=
  (logicle_strictMono T M W p hT hp).injective

/-- negative display offsets map to negative data, larger ones to positive data -/
theorem logicle_sign (T M W p s : ℝ) (hT : 0 < T) (hp : 0 < p) :
    (s < W → logicle T M W p s < 0) ∧ (W < s → 0 < logicle T M W p s) := by
  have hm := logicle_strictMono T M W p hT hp
  exact ⟨fun h => (hm h).trans_eq (logicle_at_W T M W p), fun h => (logicle_at_W T M W p).symm.trans_lt (hm h)⟩

/-! ## The equation for `p` -/

theorem Wf_def (p : ℝ) : Wf p = 2 * p / (p + 1) * Real.logb 10 p := rfl

/-- the factor `2p/(p+1)` of `Wf` increases with `p` … -/
theorem Wf_factor_mono {a b : ℝ} (ha : 0 < a + 1) (hab : a ≤ b) : 2 * a / (a + 1) ≤ 2 * b / (b + 1) := by
  rw [div_le_div_iff₀ ha (ha.trans_le (add_le_add_left hab 1))]; linear_combination 2 * hab

/-- … and lies in `[1, 2]` for `p ≥ 1` -/
theorem Wf_factor_bounds {p : ℝ} (hp : 1 ≤ p) : 1 ≤ 2 * p / (p + 1) ∧ 2 * p / (p + 1) ≤ 2 := by
  have h : 0 < p + 1 := add_pos (one_pos.trans_le hp) one_pos
  rw [le_div_iff₀ h, div_le_iff₀ h]
  exact ⟨by linear_combination hp, by linear_combination (2 : ℝ) * (zero_le_one' ℝ)⟩

/-- `p = 1` solves `W = 0` in `W = 2p·log10(p)/(p+1)` -/
theorem Wf_one : Wf (1 : ℝ) = 0 := by simp [Wf_def]

/-- `Wf` is non-negative and strictly increasing on `[1, ∞)`: the solution `p ≥ 1` of `Wf p = W` is unique -/
theorem Wf_strictMonoOn : StrictMonoOn (Wf : ℝ → ℝ) (Set.Ici 1) := by
  intro a ha b hb hab
  have ha0 : 0 < a := one_pos.trans_le ha
  calc Wf a ≤ 2 * b / (b + 1) * Real.logb 10 a :=
        mul_le_mul_of_nonneg_right (Wf_factor_mono (add_pos ha0 one_pos) hab.le) (log10_nonneg ha)
    _ < Wf b := mul_lt_mul_of_pos_left (log10_lt ha0 hab) (one_pos.trans_le (Wf_factor_bounds hb).1)

theorem p_unique (W : ℝ) (p q : ℝ) (hp : 1 ≤ p) (hq : 1 ≤ q) (h1 : Wf p = W) (h2 : Wf q = W) : p = q :=
  Wf_strictMonoOn.injOn hp hq (h1.trans h2.symm)

/-! ## Data-derived parameters -/

/-- `M = max(4.5, 4.5·log10(T)/log10(262144))` is at least 4.5 and equals 4.5 up to `T = 262144` -/
noncomputable def deriveM (T : ℝ) : ℝ := max 4.5 (4.5 / Real.logb 10 262144 * Real.logb 10 T)

theorem deriveM_ge (T : ℝ) : 4.5 ≤ deriveM T := le_max_left _ _

theorem deriveM_small (T : ℝ) (h0 : 0 < T) (hT : T ≤ 262144) : deriveM T = 4.5 := by
  have hpos : 0 < Real.logb 10 262144 := Real.logb_pos (by norm_num) (by norm_num)
  apply max_eq_left
  rw [div_mul_eq_mul_div, div_le_iff₀ hpos]
  exact mul_le_mul_of_nonneg_left (Real.logb_le_logb_of_le (by norm_num) h0 hT) (by norm_num)

/-- `W = max(0, (M - log10(T/|r|))/2)` over the most negative events of all samples: never negative,
and the maximum over samples (the running maximum in the source started at 0) -/
noncomputable def deriveW (M T : ℝ) (rs : List ℝ) : ℝ :=
  rs.foldl (fun W r => max W ((M - Real.logb 10 (T / |r|)) / 2)) 0

/-- a running maximum never falls below its start -/
theorem le_foldl_max (f : ℝ → ℝ) (rs : List ℝ) (w : ℝ) : w ≤ rs.foldl (fun W r => max W (f r)) w := by
  induction rs generalizing w with
  | nil => exact le_rfl
  | cons r rs ih => exact (le_max_left w (f r)).trans (ih _)

theorem deriveW_nonneg (M T : ℝ) (rs : List ℝ) : 0 ≤ deriveW M T rs := le_foldl_max _ rs 0

theorem deriveW_single (M T r : ℝ) : deriveW M T [r] = max 0 ((M - Real.logb 10 (T / |r|)) / 2) := rfl

/-! ## Interpolated inverse -/

/-- piecewise-linear interpolation between two nodes is monotone and exact at the nodes -/
theorem interp_segment_mono (x0 x1 s0 s1 x y : ℝ) (hx : x0 < x1) (hs : s0 ≤ s1) (hxy : x ≤ y) :
    s0 + (s1 - s0) * (x - x0) / (x1 - x0) ≤ s0 + (s1 - s0) * (y - x0) / (x1 - x0) :=
  add_le_add_right (div_le_div_of_nonneg_right
    (mul_le_mul_of_nonneg_left (sub_le_sub_right hxy x0) (sub_nonneg.2 hs)) (sub_pos.2 hx).le) s0

theorem interp_exact_at_nodes (x0 x1 s0 s1 : ℝ) (hx : x0 < x1) :
    s0 + (s1 - s0) * (x0 - x0) / (x1 - x0) = s0 ∧ s0 + (s1 - s0) * (x1 - x0) / (x1 - x0) = s1 :=
  ⟨by rw [sub_self, mul_zero, zero_div, add_zero],
   by rw [mul_div_cancel_right₀ _ (sub_pos.2 hx).ne', add_sub_cancel]⟩

end FlowCal.C18
