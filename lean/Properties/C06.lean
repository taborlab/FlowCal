import Properties.C03
import Properties.ExceptLemmas
/-!
# C06 — MEF conversion applies each channel's own standard curve, or refuses
-/
namespace FlowCal.C06
open FlowCal.Transform FlowCal.Py FlowCal.C03 FlowCal.Exc

variable {P : Type}

/-- different numbers of curves and channels are refused -/
theorem length_error (m : Meta P) (ch : Option (Sum Ref (List Ref))) (n : Nat) (sc : List Ref) (h : sc.length ≠ n) :
    toMef m ch n (some sc) = .error .ValueError := by
  simp [toMef, h, bind, Except.bind, throw, throwThe, MonadExceptOf.throw]

theorem mem_zip_range {α : Type} {l : List α} {n : Nat} {p : α × Nat} (h : p ∈ l.zip (List.range n)) :
    p.2 < n ∧ l[p.2]? = some p.1 := by
  obtain ⟨k, hk, rfl⟩ := List.getElem_of_mem h
  simp only [List.length_zip, List.length_range, Nat.lt_min] at hk
  simp [hk.1, hk.2]

/-- **Each converted column gets the curve supplied for that column.**  Every pair `(column, k)` the
model applies satisfies: `k` indexes `sc_list`, the `k`-th entry of `sc_channels` is a requested channel,
and it is the channel that lives in that column. -/
theorem own_curve (ncols : Nat) (sc chInd : List Int) (n : Nat) (acts : List (Nat × Nat))
    (h : toMefCore ncols sc chInd n = .ok acts) :
    ∀ a ∈ acts, a.2 < n ∧ ∃ ci, sc[a.2]? = some ci ∧ ci ∈ chInd ∧ colOf ncols ci = .ok a.1 := by
  unfold toMefCore at h
  split at h
  · cases h
  · intro a ha
    -- `a` is the image of one pair `p = (channel, index)` of the curve list that passed the filter
    obtain ⟨⟨c, k⟩, hp, hpa⟩ := mem_of_mapM_ok h ha
    obtain ⟨hp, hreq⟩ := List.mem_filter.mp hp
    obtain ⟨hk, hsc⟩ := mem_zip_range hp
    dsimp only at hpa
    split at hpa
    · rename_i col hcol
      cases hpa
      exact ⟨hk, c, hsc, List.contains_iff_mem.mp hreq, hcol⟩
    · cases hpa

/-- **Order of listing is irrelevant**: column conversions on distinct columns commute, so any joint
permutation of `(sc_channels, sc_list)` yields the identical sample (`applyAll_perm`). -/
theorem listing_order_irrelevant {V : Type} (acts acts' : List (Nat × (V → V))) (rows : List (List V))
    (hp : acts.Perm acts') (hnd : (acts.map (·.1)).Nodup) : applyAll acts rows = applyAll acts' rows :=
  applyAll_perm acts acts' rows hp hnd

/-- requesting a channel without a curve is refused (never passed through unconverted) -/
example :
    let m : Meta Nat := ⟨true, 4, ["FSC", "FL1", "FL2", "FL3"], [], [], []⟩
    toMef m (some (.inr [.name "FL1", .name "FL3"])) 2 (some [.name "FL2", .pos 1]) = .error .ValueError ∧
    toMef m (some (.inr [.pos 1, .name "FL2"])) 2 (some [.name "FL2", .pos 1]) = .ok [(2, 0), (1, 1)] ∧
    toMef m none 2 (some [.name "FL3", .name "FL1"]) = .ok [(3, 0), (1, 1)] := by decide +kernel

end FlowCal.C06
