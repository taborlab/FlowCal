import Properties.C03
import Properties.ExceptLemmas
/-!
# C03 (continued) — a batch call equals the single-channel calls, at the level of the `to_rfi` model
-/
namespace FlowCal.C03
open FlowCal.Transform FlowCal.Py FlowCal.Exc
variable {P : Type}

/-- `to_rfi` on a list of channels with per-channel setting lists is a per-channel map -/
theorem toRfi_list_eq {isZero : P → Bool} {m : Meta P} {refs : List Ref}
    {ats : List (Option (P × P))} {ags rs : List (Option P)}
    (h1 : ats.length = refs.length) (h2 : ags.length = refs.length) (h3 : rs.length = refs.length) :
    toRfi isZero m (some (.inr refs)) (.list ats) (.list ags) (.list rs) =
      (do let cis ← refs.mapM (resolve m)
          (cis.zip (rs.zip (ats.zip ags))).mapM (fun (c, r, a, g) => decide1 isZero m c r a g)) := by
  unfold toRfi
  simp only [normList, h1, h2, h3, ne_eq, not_true_eq_false, if_false]
  rfl

/-- **Several channels in one call = each channel on its own**: if the batch call succeeds with the action
list `acts`, then converting only the `i`-th requested channel with its own settings succeeds with exactly
`acts[i]` — the decision for a channel never depends on the other channels of the call. -/
theorem batch_eq_single (isZero : P → Bool) (m : Meta P) (refs : List Ref)
    (ats : List (Option (P × P))) (ags rs : List (Option P)) (acts : List (Nat × Law P))
    (h1 : ats.length = refs.length) (h2 : ags.length = refs.length) (h3 : rs.length = refs.length)
    (h : toRfi isZero m (some (.inr refs)) (.list ats) (.list ags) (.list rs) = .ok acts)
    (i : Nat) (hi : i < refs.length) :
    ∃ (hia : i < acts.length),
      toRfi isZero m (some (.inr [refs[i]])) (.list [ats[i]]) (.list [ags[i]]) (.list [rs[i]]) = .ok [acts[i]] := by
  rw [toRfi_list_eq h1 h2 h3, bind_eq_ok] at h
  obtain ⟨cis, hcis, h⟩ := h
  have hc : i < cis.length := length_of_mapM_ok hcis ▸ hi
  have hz : i < (cis.zip (rs.zip (ats.zip ags))).length := by
    simp only [List.length_zip, Nat.lt_min, hc, h1, h2, h3, hi, and_self]
  have hia : i < acts.length := length_of_mapM_ok h ▸ hz
  have hci := getElem_of_mapM_ok hcis i hi hc
  have hdi := getElem_of_mapM_ok h i hz hia
  simp only [List.getElem_zip] at hdi
  refine ⟨hia, ?_⟩
  -- the arguments are left to unification: writing `ats[i]` again would search for its bound proof again (1M heartbeats each)
  rw [toRfi_list_eq rfl rfl rfl]
  simp [hci, hdi]

end FlowCal.C03
