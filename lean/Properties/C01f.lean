import Properties.C01g
/-!
# C01 — the whole of `loadFile`: keywords that describe the DATA segment make the file load exactly the recorded events
(the FCS 2.0, integer data, little-endian instances of the statements of `Properties.C01g`)
-/
namespace FlowCal.C01
open FlowCal.Data FlowCal.Py FlowCal.File FlowCal.Text

theorem little_1234 : (s2l "1,2,3,4" == s2l "4,3,2,1" || s2l "1,2,3,4" == s2l "2,1") = false := by decide +kernel

/-- the layout checks succeed on a keyword dictionary that answers every lookup with well-formed values (integer data, little-endian) -/
theorem checkLayout_ok (text : Dict) (D : Nat) (wsf : Nat → Int)
    (hmode : lookup text "$MODE" = .ok (s2l "L")) (hdt : lookup text "$DATATYPE" = .ok (s2l "I"))
    (hpar : intKw text "$PAR" = .ok (D : Int))
    (hws : ∀ p, p < D → intKw text s!"$P{p+1}B" = .ok (wsf p))
    (h8 : ∀ p, p < D → wsf p % 8 = 0)
    (hbo : lookup text "$BYTEORD" = .ok (s2l "1,2,3,4")) (hnd : intKw text "$NEXTDATA" = .ok 0) :
    checkLayout text = .ok (s2l "I", (D : Int), (List.range D).map wsf, false, false) := by
  simpa [little_1234] using checkLayout_ok_gen text D wsf _ _ 0 hmode hdt (.inl rfl) hpar hws (fun _ => h8) hbo (.inl rfl) hnd

/-- **Keywords that describe the DATA segment make the file load exactly its events.**  For an FCS 2.0 file (no optional
segments) whose HEADER parses to `h`, whose primary TEXT segment parses to a dictionary `text` answering every lookup of
`FCSFile.__init__` with well-formed values (integer data, little-endian byte order), and whose DATA segment — at the HEADER's
offsets — decodes to `events`, `loadFile` returns `events`, the dictionary unchanged, an empty ANALYSIS dictionary and no warning
beyond the TEXT parser's own. -/
theorem loadFile_of_keywords (file : Bytes) (h : Header) (text : Dict) (dl : Option Nat) (w0 : Bool)
    (D n : Nat) (wsf : Nat → Int) (rf : Nat → Bytes) (bf : Nat → Nat) (events : List (List Nat))
    (hh : parseHeader file = .ok h) (hv : isV3 h.version = false)
    (ht : readTextSeg file h.textBegin h.textEnd none false = .ok (text, dl, w0))
    (ha : h.analysisBegin = 0 ∨ h.analysisEnd = 0)
    (hmode : lookup text "$MODE" = .ok (s2l "L")) (hdt : lookup text "$DATATYPE" = .ok (s2l "I"))
    (hpar : intKw text "$PAR" = .ok (D : Int))
    (hws : ∀ p, p < D → intKw text s!"$P{p+1}B" = .ok (wsf p)) (h8 : ∀ p, p < D → wsf p % 8 = 0) (hwpos : ∀ p, p < D → 0 ≤ wsf p)
    (hbo : lookup text "$BYTEORD" = .ok (s2l "1,2,3,4")) (hnd : intKw text "$NEXTDATA" = .ok 0)
    (hr : ∀ p, p < D → lookup text s!"$P{p+1}R" = .ok (rf p)) (hb : ∀ p, p < D → rangeBits (rf p) = .ok (some (bf p)))
    (hdb : h.dataBegin ≠ 0) (hde : h.dataEnd ≠ 0) (hdb0 : 0 ≤ h.dataBegin) (hde0 : 0 ≤ h.dataEnd)
    (htot : intKw text "$TOT" = .ok (n : Int))
    (hread : readData file h.dataBegin.toNat h.dataEnd.toNat .I n ((List.range D).map (fun p => (wsf p).toNat)) false
      (some ((List.range D).map bf)) = .ok events) :
    loadFile file = .ok ⟨text, [], events, D, false, resultWidth ((List.range D).map (fun p => (wsf p).toNat)), if w0 then ["text"] else []⟩ := by
  have e := dtypeOf_I
  have := loadFile_of_keywords_gen file h text dl w0 D n wsf rf (fun p => some (bf p)) (s2l "I") (s2l "1,2,3,4") 0 _ _ events hh ht
    (.inl hv) ⟨ha, .inl hv⟩ hmode hdt (.inl rfl) hpar hws (fun _ => h8) hwpos hbo (.inl rfl) hnd hr hb (fun _ _ _ => rfl)
    (dataOffsets_header_priority h text hdb hde) hdb0 hde0 htot (by simpa [e, little_1234] using hread)
  simpa [e, widthOf] using this

/-- **Loading returns exactly the events recorded in the file** (mixed-width integer files, little-endian, FCS 2.0): if the bytes
at the HEADER's DATA offsets are the encoding of `m` for the width vector the keywords give, and every value fits the bits its
declared range needs, then `loadFile` returns `m` — whatever precedes the DATA segment (`pre`: HEADER, TEXT, padding) and whatever
follows it (`post`), for either end-offset convention. -/
theorem loadFile_returns_recorded_events (pre post : Bytes) (h : Header) (text : Dict) (dl : Option Nat) (w0 : Bool)
    (D : Nat) (wsf : Nat → Int) (rf : Nat → Bytes) (bf : Nat → Nat) (m : List (List Nat)) (ws : List Nat) (past : Bool)
    (hwsEq : ws = (List.range D).map (fun p => (wsf p).toNat))
    (hfile : parseHeader (pre ++ encodeEvents false ws m ++ post) = .ok h) (hv : isV3 h.version = false)
    (ht : readTextSeg (pre ++ encodeEvents false ws m ++ post) h.textBegin h.textEnd none false = .ok (text, dl, w0))
    (ha : h.analysisBegin = 0 ∨ h.analysisEnd = 0)
    (hmode : lookup text "$MODE" = .ok (s2l "L")) (hdt : lookup text "$DATATYPE" = .ok (s2l "I"))
    (hpar : intKw text "$PAR" = .ok (D : Int))
    (hws : ∀ p, p < D → intKw text s!"$P{p+1}B" = .ok (wsf p)) (h8 : ∀ p, p < D → wsf p % 8 = 0) (hwpos : ∀ p, p < D → 0 ≤ wsf p)
    (hbo : lookup text "$BYTEORD" = .ok (s2l "1,2,3,4")) (hnd : intKw text "$NEXTDATA" = .ok 0)
    (hr : ∀ p, p < D → lookup text s!"$P{p+1}R" = .ok (rf p)) (hb : ∀ p, p < D → rangeBits (rf p) = .ok (some (bf p)))
    (htot : intKw text "$TOT" = .ok (m.length : Int))
    -- the HEADER's DATA offsets are those of the encoded events
    (hne : pre ≠ []) (hdb : h.dataBegin = (pre.length : Nat))
    (hde : h.dataEnd = ((pre.length + m.length * rowBytes ws - (if past then 0 else 1) : Nat) : Int)) (hde0 : h.dataEnd ≠ 0)
    (hext : 0 < m.length * rowBytes ws ∨ past = true)
    -- a mixed-width layout whose events are well formed and fit their declared ranges
    (hu : isUniform ws = false) (h64 : ∀ w ∈ ws, w ≤ 64) (hU : ∀ w ∈ ws, w ≤ upcastBits ws) (hpos : ws.foldl max 0 ≠ 0)
    (hwf : WellFormed ws m) (hfits : ∀ b ∈ (List.range D).map bf, b ≤ upcastBits ws) (hbits : FitsBits ((List.range D).map bf) m) :
    ∃ L, loadFile (pre ++ encodeEvents false ws m ++ post) = .ok L ∧ L.data = m ∧ L.text = text ∧ L.analysis = [] := by
  have key := loadFile_events_mixed pre post h text dl w0 D wsf rf (fun p => some (bf p)) (s2l "1,2,3,4") 0 m ws past hwsEq
  -- the byte-order flag `false` of the statement is `isBig` of this `$BYTEORD`
  rw [show isBig (s2l "1,2,3,4") = false from little_1234] at key
  obtain ⟨L, hL, h1, h2, h3, _⟩ := key hfile ht (.inl hv) ⟨ha, .inl hv⟩
    ⟨hmode, hdt, .inl rfl, hpar, hws, fun _ => h8, hwpos, hbo, .inl rfl, hnd, hr, hb, fun _ _ _ => rfl, htot⟩
    (by rw [← hdb, ← hde]; exact dataOffsets_header_priority h text (by rw [hdb]; simpa using hne) hde0)
    hne hext hu h64 hU hpos hwf hfits hbits
  exact ⟨L, hL, h1, h2, h3⟩

/-! ### the hypotheses of `loadFile_of_keywords` are jointly satisfiable: a complete 194-byte FCS2.0 file with an 8-bit and a 16-bit
parameter and two events (written by the harness's independent writer) -/

def mixedFile : List Nat := [70, 67, 83, 50, 46, 48, 32, 32, 32, 32, 32, 32, 32, 32, 32, 32, 53, 56, 32, 32, 32, 32, 32, 49, 56, 55, 32, 32, 32, 32, 32, 49, 56, 56, 32, 32, 32, 32, 32, 49, 57, 51, 32, 32, 32, 32, 32, 32, 32, 48, 32, 32, 32, 32, 32, 32, 32, 48, 47, 36, 66, 89, 84, 69, 79, 82, 68, 47, 49, 44, 50, 44, 51, 44, 52, 47, 36, 68, 65, 84, 65, 84, 89, 80, 69, 47, 73, 47, 36, 77, 79, 68, 69, 47, 76, 47, 36, 78, 69, 88, 84, 68, 65, 84, 65, 47, 48, 47, 36, 80, 65, 82, 47, 50, 47, 36, 84, 79, 84, 47, 50, 47, 36, 80, 49, 66, 47, 56, 47, 36, 80, 49, 78, 47, 65, 47, 36, 80, 49, 82, 47, 50, 53, 54, 47, 36, 80, 49, 69, 47, 48, 44, 48, 47, 36, 80, 50, 66, 47, 49, 54, 47, 36, 80, 50, 78, 47, 66, 47, 36, 80, 50, 82, 47, 49, 48, 50, 52, 47, 36, 80, 50, 69, 47, 48, 44, 48, 47, 7, 44, 1, 9, 232, 3]

def mixedText : Dict := [(s2l "$BYTEORD", s2l "1,2,3,4"), (s2l "$DATATYPE", s2l "I"), (s2l "$MODE", s2l "L"), (s2l "$NEXTDATA", s2l "0"), (s2l "$PAR", s2l "2"), (s2l "$TOT", s2l "2"), (s2l "$P1B", s2l "8"), (s2l "$P1N", s2l "A"), (s2l "$P1R", s2l "256"), (s2l "$P1E", s2l "0,0"), (s2l "$P2B", s2l "16"), (s2l "$P2N", s2l "B"), (s2l "$P2R", s2l "1024"), (s2l "$P2E", s2l "0,0")]

/-- the load of the concrete file, obtained from the theorem.  Its hypotheses (the decoding of the DATA segment among them) are closed
facts about the file and are checked by evaluation, those that look at `mixedText` in one conjunction: the kernel then converts its
string literals once instead of once per lookup. -/
theorem mixedFile_loads :
    loadFile mixedFile = .ok ⟨mixedText, [], [[7, 300], [9, 1000]], 2, false, resultWidth [8, 16], []⟩ := by
  have ⟨ht, hmode, hdt, hpar, hbo, hnd, htot, hws, hr⟩ : readTextSeg mixedFile 58 187 none false = .ok (mixedText, some 47, false) ∧
      lookup mixedText "$MODE" = .ok (s2l "L") ∧ lookup mixedText "$DATATYPE" = .ok (s2l "I") ∧
      intKw mixedText "$PAR" = .ok ((2 : Nat) : Int) ∧
      lookup mixedText "$BYTEORD" = .ok (s2l "1,2,3,4") ∧ intKw mixedText "$NEXTDATA" = .ok 0 ∧
      intKw mixedText "$TOT" = .ok ((2 : Nat) : Int) ∧
      (∀ p, p < 2 → intKw mixedText s!"$P{p+1}B" = .ok (if p = 0 then 8 else 16)) ∧
      (∀ p, p < 2 → lookup mixedText s!"$P{p+1}R" = .ok (if p = 0 then s2l "256" else s2l "1024")) := by decide +kernel
  have ⟨hh, h8, hwpos, hb, hread⟩ : parseHeader mixedFile = .ok ⟨[70, 67, 83, 50, 46, 48], 58, 187, 188, 193, 0, 0⟩ ∧
      (∀ p, p < 2 → (if p = 0 then 8 else 16 : Int) % 8 = 0) ∧ (∀ p, p < 2 → 0 ≤ (if p = 0 then 8 else 16 : Int)) ∧
      (∀ p, p < 2 → rangeBits (if p = 0 then s2l "256" else s2l "1024") = .ok (some (if p = 0 then 8 else 10))) ∧
      readData mixedFile (188 : Int).toNat (193 : Int).toNat .I 2 ((List.range 2).map (fun p => (if p = 0 then 8 else 16 : Int).toNat)) false
        (some ((List.range 2).map (fun p => if p = 0 then 8 else 10))) = .ok [[7, 300], [9, 1000]] := by decide +kernel
  exact loadFile_of_keywords mixedFile _ mixedText (some 47) false 2 2 (fun p => if p = 0 then 8 else 16)
    (fun p => if p = 0 then s2l "256" else s2l "1024") (fun p => if p = 0 then 8 else 10) [[7, 300], [9, 1000]]
    hh (by decide) ht (Or.inl rfl) hmode hdt hpar hws h8 hwpos hbo hnd hr hb (by decide) (by decide) (by decide) (by decide) htot hread

end FlowCal.C01
