import Properties.C05
/-!
# C05 (continued) — the accepted prefix is the only one that meets the lower bound and is minimal
-/
namespace FlowCal.C05
open FlowCal.Density

/-- **Uniqueness**: among the prefixes of the density-ordered bin list there is exactly one that holds at
least `t` events while its proper predecessor holds fewer — the one `density2d` computes. With a strict density
order the kept set is therefore determined by the statement of the property alone. -/
theorem accept_unique (cs : List Nat) (t k : Nat) (ht : 0 < t) (hk0 : 0 < k) (hk : k ≤ cs.length)
    (hlow : t ≤ (cs.take k).sum) (hmin : (cs.take (k - 1)).sum < t) : k = acceptCount cs t := by
  have h1 := (acceptCount_le_iff cs ht).mpr (.inr hlow)
  have h2 := (acceptCount_le_iff cs (k := k - 1) ht).mp
  omega

/-- the accepted prefix does satisfy both clauses (restating `lower_bound` and `minimal` for the same `k`) -/
theorem accept_valid (cs : List Nat) (t : Nat) (ht : 0 < t) (h : t ≤ cs.sum) :
    0 < acceptCount cs t ∧ acceptCount cs t ≤ cs.length ∧
    t ≤ (cs.take (acceptCount cs t)).sum ∧ (cs.take (acceptCount cs t - 1)).sum < t := by
  refine ⟨Nat.pos_of_ne_zero fun h0 => ?_, acceptCount_le cs t, lower_bound cs t h, minimal cs t ht⟩
  have := lower_bound cs t h
  simp [h0] at this; omega

end FlowCal.C05
