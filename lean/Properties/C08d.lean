import Properties.C08
import Mathlib.Tactic.Ring
/-!
# C08 (continued) — symmetries of the ellipse gate: the sign of a semi-axis and a half turn do not matter
-/
namespace FlowCal.C08
open FlowCal.Gate

variable {F : Type} [Field F]

/-- the quadratic form depends on the semi-axes through their squares only: a negative semi-axis describes the same gate -/
theorem form_neg_axes (cx cy a b c s x y : F) :
    ellipseForm cx cy (-a) b c s x y = ellipseForm cx cy a b c s x y ∧
    ellipseForm cx cy a (-b) c s x y = ellipseForm cx cy a b c s x y ∧
    ellipseForm cx cy (-a) (-b) c s x y = ellipseForm cx cy a b c s x y := by
  simp only [ellipseForm, div_neg, neg_mul_neg, and_self]

/-- the form sees an event through the squares of its two centred, rotated coordinates: negating both changes nothing -/
theorem form_congr_neg {cx cy a b c s x y c' s' x' y' : F}
    (hx : (x' - cx) * c' + (y' - cy) * s' = -((x - cx) * c + (y - cy) * s))
    (hy : (y' - cy) * c' - (x' - cx) * s' = -((y - cy) * c - (x - cx) * s)) :
    ellipseForm cx cy a b c' s' x' y' = ellipseForm cx cy a b c s x y := by
  simp only [ellipseForm, hx, hy, neg_div, neg_mul_neg]

/-- rotating the ellipse by a half turn (`(c, s) ↦ (-c, -s)`) gives the same gate -/
theorem form_half_turn (cx cy a b c s x y : F) :
    ellipseForm cx cy a b (-c) (-s) x y = ellipseForm cx cy a b c s x y :=
  form_congr_neg (by ring) (by ring)

/-- the gate is symmetric about its centre: an event and its mirror image through the centre get the same value -/
theorem form_point_symmetry (cx cy a b c s x y : F) :
    ellipseForm cx cy a b c s (2 * cx - x) (2 * cy - y) = ellipseForm cx cy a b c s x y :=
  form_congr_neg (by ring) (by ring)

end FlowCal.C08
