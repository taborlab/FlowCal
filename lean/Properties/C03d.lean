import Properties.C06b
/-!
# C03 (continued) — `to_rfi` does not depend on how the channels are spelt (names vs positions)
-/
namespace FlowCal.C03
open FlowCal.Transform FlowCal.Py FlowCal.C06

variable {P : Type}

/-- **The plan of `to_rfi` does not depend on the spelling of the channels**: a list of references replaced, entry by entry, by other
spellings of the same channels gives the same (column, law) list or the same refusal, for every combination of settings. -/
theorem toRfi_spelling_irrelevant (isZero : P → Bool) (m : Meta P) (l l' : List Ref) (at_ : Arg (P × P)) (ag res : Arg P)
    (h : List.Forall₂ (SameChannel m) l l') :
    toRfi isZero m (some (.inr l)) at_ ag res = toRfi isZero m (some (.inr l')) at_ ag res := by
  unfold toRfi
  simp only [spelling_congr h]

/-- the same for a single channel given as a scalar -/
theorem toRfi_spelling_irrelevant_scalar (isZero : P → Bool) (m : Meta P) (r r' : Ref) (at_ : Arg (P × P)) (ag res : Arg P)
    (h : SameChannel m r r') :
    toRfi isZero m (some (.inl r)) at_ ag res = toRfi isZero m (some (.inl r')) at_ ag res :=
  congrArg (· >>= _) h   -- the first step of `toRfi` on a scalar is `resolve m r`, and the rest does not mention `r`

end FlowCal.C03
