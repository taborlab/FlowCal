import FlowCalModel.Mef
/-!
# C02 — Bead calibration end to end yields the true RFI-to-MEF conversion (the list logic after clustering)
-/
namespace FlowCal.C02
open FlowCal.Mef

/-- **Exclusion is local (no shifting)**: a pair `(statistic, MEF value)` is handed to the fit iff it sits
at one position `j` whose MEF value is known and whose population passed the selection — every other
population keeps its own value. -/
theorem selectPairs_mem {S M : Type} (stats : List S) (mef : List (Option M)) (sel : List Bool) (s : S) (v : M) :
    (s, v) ∈ selectPairs stats mef sel ↔ (s, some v, true) ∈ stats.zip (mef.zip sel) := by
  simp only [selectPairs, List.mem_filterMap]
  refine ⟨?_, fun h => ⟨_, h, rfl⟩⟩
  rintro ⟨⟨s', _ | m, _ | _⟩, hmem, h⟩ <;> cases h
  exact hmem

/-- the selected RFI and MEF lists have equal length (they are the two projections of one list of pairs),
never more entries than populations -/
theorem selected_lengths {S M : Type} (stats : List S) (mef : List (Option M)) (sel : List Bool) :
    ((selectPairs stats mef sel).map (·.1)).length = ((selectPairs stats mef sel).map (·.2)).length ∧
    (selectPairs stats mef sel).length ≤ stats.length :=
  ⟨by simp only [List.length_map],
   Nat.le_trans (List.length_filterMap_le _ _) (List.length_zip ▸ Nat.min_le_left _ _)⟩

/-- sorting the populations is a permutation: no population is lost or duplicated -/
theorem insertBy_perm {β : Type} (key : β → Int) (x : β) (l : List β) : (insertBy key x l).Perm (x :: l) := by
  induction l with
  | nil => exact .refl _
  | cons y ys ih =>
    simp only [insertBy]
    split
    · exact .refl _
    · exact (ih.cons y).trans (.swap x y ys)

theorem sortBy_perm {β : Type} (key : β → Int) (l : List β) : (sortBy key l).Perm l := by
  induction l with
  | nil => exact .nil
  | cons x xs ih => exact (insertBy_perm key x _).trans (ih.cons x)

/-- … and it is ordered by increasing key: MEF values are assigned in order of increasing brightness -/
theorem insertBy_sorted {β : Type} (key : β → Int) (x : β) (l : List β) (h : l.Pairwise (fun a b => key a ≤ key b)) :
    (insertBy key x l).Pairwise (fun a b => key a ≤ key b) := by
  induction l with
  | nil => exact List.pairwise_singleton _ _
  | cons y ys ih =>
    rw [List.pairwise_cons] at h
    simp only [insertBy]
    -- the elements of `insertBy key x ys` are `x` and those of `ys`
    split <;> simp only [List.pairwise_cons, (insertBy_perm key x ys).mem_iff, List.mem_cons, forall_eq_or_imp]
    · exact ⟨⟨Int.le_of_lt ‹_›, fun b hb => Int.le_trans (Int.le_of_lt ‹_›) (h.1 b hb)⟩, h⟩
    · exact ⟨⟨Int.not_lt.mp ‹_›, h.1⟩, ih h.2⟩

theorem sortBy_sorted {β : Type} (key : β → Int) (l : List β) : (sortBy key l).Pairwise (fun a b => key a ≤ key b) := by
  induction l with
  | nil => exact .nil
  | cons x xs ih => exact insertBy_sorted key x _ ih

/-- **One label per event, one population per distinct label**: every event index belongs to the population of its label -/
theorem populations_cover (labels : List Nat) (i : Nat) (hi : i < labels.length) :
    ∃ p ∈ populations labels, i ∈ p := by
  refine ⟨_, List.mem_map.mpr ⟨labels[i], List.mem_eraseDups.mpr (List.getElem_mem hi), rfl⟩, ?_⟩
  simp [hi]

/-- populations are disjoint: an event carries one label -/
theorem populations_disjoint (labels : List Nat) (i : Nat) (l1 l2 : Nat)
    (h1 : i ∈ (List.range labels.length).filter (fun j => labels.getD j 0 == l1))
    (h2 : i ∈ (List.range labels.length).filter (fun j => labels.getD j 0 == l2)) : l1 = l2 :=
  (eq_of_beq (List.mem_filter.mp h1).2).symm.trans (eq_of_beq (List.mem_filter.mp h2).2)

/-! Non-vacuity: 3 populations, one unknown MEF value, one rejected by the selection -/
example : selectPairs [10, 20, 30, 40] [some 100, none, some 300, some 400] [true, true, false, true] = [(10, 100), (40, 400)] := by decide +kernel
example : populations [2, 0, 2, 1, 0] = [[0, 2], [1, 4], [3]] := by decide +kernel
example : sortBy (fun (p : Nat × Int) => p.2) [(0, 30), (1, 10), (2, 20)] = [(1, 10), (2, 20), (0, 30)] := by decide +kernel

end FlowCal.C02
