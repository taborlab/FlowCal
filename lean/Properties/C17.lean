import FlowCalModel.Meta
import FlowCalModel.Generated
import Properties.ExceptLemmas
/-!
# C17 — Acquisition metadata reflects the file's keywords and never blocks loading
-/
namespace FlowCal.C17
open FlowCal.Meta FlowCal.Py FlowCal.Exc

/-- the three cases of the time step: `$TIMESTEP` wins over `TIMETICKS`; `float()` raises only `ValueError`, which the `try` block
catches, so an unparseable value gives an absent attribute -/
theorem timeStep_eq (d : Dict) : timeStep d = .ok
    (match get d "$TIMESTEP", get d "TIMETICKS" with
     | some s, _ => if pyFloatAccepts s then some ⟨s, false⟩ else none
     | none, some s => if pyFloatAccepts s then some ⟨s, true⟩ else none
     | none, none => none) := by
  unfold timeStep pyFloat
  cases get d "$TIMESTEP" with
  | some s => dsimp only; cases pyFloatAccepts s <;> rfl
  | none => cases get d "TIMETICKS" with
    | some s => dsimp only; cases pyFloatAccepts s <;> rfl
    | none => rfl

/-- the time step derivation never raises, whatever `$TIMESTEP` / `TIMETICKS` contain -/
theorem timeStep_total (d : Dict) : ∃ v, timeStep d = .ok v := ⟨_, timeStep_eq d⟩

/-- precedence: `$TIMESTEP` wins over `TIMETICKS`; an unparseable value gives an absent attribute -/
theorem timeStep_precedence (d : Dict) (s : Str) (h : get d "$TIMESTEP" = some s) :
    timeStep d = .ok (if pyFloatAccepts s then some ⟨s, false⟩ else none) := by
  rw [timeStep_eq, h]

theorem timeStep_legacy (d : Dict) (s : Str) (h0 : get d "$TIMESTEP" = none) (h : get d "TIMETICKS" = some s) :
    timeStep d = .ok (if pyFloatAccepts s then some ⟨s, true⟩ else none) := by
  rw [timeStep_eq, h0, h]

/-- time strings never raise: missing, unparseable, wrong field count, out-of-range fields all give `none` -/
theorem parseTime_total (v : Option Str) : ∃ r, parseTime v = .ok r := by
  unfold parseTime
  split
  · exact ⟨_, rfl⟩
  · split <;> (try split) <;> exact ⟨_, rfl⟩

theorem moments_total (d : Dict) : ∃ r, moments d = .ok r :=
  Total.bind (parseTime_total _) fun _ => Total.bind (parseTime_total _) fun _ => .ok _

/-- the cast `try: float(x) except ValueError: None` of an optional keyword value, the tail that `voltage` and `gain` share -/
theorem floatOrNone_eq (v : Option Str) :
    (match v with
      | none => .ok none
      | some x => match pyFloat x with
        | .ok f => .ok (some f)
        | .error .ValueError => .ok none
        | .error e => .error e : Except PyErr (Option Str)) = .ok (v.filter pyFloatAccepts) := by
  cases v with
  | none => rfl
  | some x => unfold pyFloat; dsimp only [Option.filter]; cases pyFloatAccepts x <;> rfl

theorem voltage_total (d : Dict) (i : Nat) : ∃ r, voltage d i = .ok r := ⟨_, floatOrNone_eq _⟩

theorem gain_total (d : Dict) (i : Nat) : ∃ r, gain d i = .ok r := ⟨_, floatOrNone_eq _⟩

/-- **Optional keywords never block loading**: for every keyword dictionary and every number of
parameters, deriving the attributes that come from optional keywords (time step, start/end time, date,
detector voltages, amplifier gains with their vendor fallbacks, labels) succeeds. -/
theorem optionalAttrs_total (d : Dict) (npar : Nat) : ∃ a, optionalAttrs d npar = .ok a :=
  Total.bind (timeStep_total d) fun _ => Total.bind (moments_total d) fun (_, _) =>
    Total.bind (mapM_total fun _ _ => voltage_total d _) fun _ =>
      Total.bind (mapM_total fun _ _ => gain_total d _) fun _ => .ok _

/-- **The acquisition duration never raises, two time channels excepted**, and follows the documented
precedence: time channel (when a time step exists), else start/end times, else absent. -/
theorem acqSource_spec (names : List (Option Str)) (a : OptionalAttrs) :
    ((timeIdx names).length > 1 → acqSource names a = .error .KeyError) ∧
    ((timeIdx names).length ≤ 1 → ∃ r, acqSource names a = .ok r) ∧
    ((timeIdx names).length = 1 → a.timeStep.isSome → acqSource names a = .ok (.timeChannel ((timeIdx names).headD 0))) ∧
    ((timeIdx names).length = 0 → a.start.isSome → a.stop.isSome → acqSource names a = .ok .startEnd) ∧
    ((timeIdx names).length = 1 → a.timeStep = none → a.start.isSome → a.stop.isSome → acqSource names a = .ok .startEnd) := by
  unfold acqSource
  generalize timeIdx names = idx
  refine ⟨fun h => if_pos h, fun h => ?_, fun h ht => ?_, fun h hs he => ?_, fun h ht hs he => ?_⟩
  · rw [if_neg (Nat.not_lt.mpr h)]
    split
    · exact ⟨_, rfl⟩
    · split <;> exact ⟨_, rfl⟩
  · simp [h, ht]
  · simp [h, hs, he]
  · simp [h, ht, hs, he]

/-! Non-vacuity: concrete keyword values, evaluated by the kernel -/
example : strptimeHMSf (s2l "12:03:09:5") = some ⟨12, 3, 9, 500000⟩ := by decide +kernel
example : (parseTime (some (s2l "17:45:23.5"))).toOption = some (some ⟨17, 45, 23, 500000⟩) := by decide +kernel
example : (parseTime (some (s2l "25:00:00"))).toOption = some none := by decide +kernel
example : (parseTime (some (s2l "12:00:00:xx"))).toOption = some none := by decide +kernel
example : parseDate (some (s2l "02-OCT-2015")) = some ⟨2015, 10, 2⟩ := by decide +kernel
example : parseDate (some (s2l "15-oct-02")) = some ⟨2002, 10, 15⟩ := by decide +kernel
example : parseDate (some (s2l "2015-Oct-31")) = some ⟨2015, 10, 31⟩ := by decide +kernel
example : parseDate (some (s2l "31-FEB-2015")) = none := by decide +kernel

/-- the keyword names and vendor marks the model reads are the ones `FCSData.__new__` reads in the source now (regenerated on every run) -/
theorem keywords_match_source :
    Generated.sampleKeywords = FlowCal.Meta.keywordsRead ∧ Generated.vendorMarks = FlowCal.Meta.vendorMarksRead := ⟨rfl, rfl⟩

end FlowCal.C17
