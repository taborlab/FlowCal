import FlowCalModel.Heap
import FlowCalModel.Generated
/-!
# C13 — No call changes its inputs, and results share no state with them
-/
namespace FlowCal.C13
open FlowCal.Heap FlowCal.Generated

/-! ## (b) write sites regenerated from the source on every run -/

/-- In-place writes through parameters or internal-state aliases that are intended:
objects initialising or restoring themselves, and a `**kwargs` dictionary that is
fresh per call. Anything else found in the source breaks `writeSites_allowed`. -/
def allowedWrite (w : WriteSite) : Bool :=
  (w.kind == "store" && w.target == "self") ||
  (w.function == "FCSFile.__init__") ||
  (w.module == "plot" && w.target == "kwargs") ||
  (w.function == "FCSData.__setitem__")

/-- **Generated-facts theorem**: every in-place write the extractor finds in the public
functions and methods of io, transform, gate, stats, mef and plot is on the allow-list. -/
theorem writeSites_allowed : writeSites.all allowedWrite = true := by decide +kernel

/-! ## (a) frame theorems over the heap model -/

/-! The library only ever *appends* cells (`Grows`); the frame theorems are what that means for `read`. -/

/-- `h'` has every location of `h`, with the same content, and possibly more -/
def Grows (h h' : Heap) : Prop := h.cells <+: h'.cells

theorem Grows.read {h h' : Heap} (g : Grows h h') {l : Loc} (hl : l < h.next) : h'.read l = h.read l := by
  obtain ⟨t, ht⟩ := g
  rw [Heap.read, Heap.read, ← ht, List.getD_eq_getElem?_getD, List.getD_eq_getElem?_getD, List.getElem?_append_left hl]

theorem copyLocs_grows (h : Heap) (ls : List Loc) : Grows h (h.copyLocs ls).1 := List.prefix_append ..

theorem finalizeFrom_grows (h : Heap) (o : Obj) (buf : Option Loc) (cols : List Nat) : Grows h (finalizeFrom h o buf cols).1 := by
  have g2 := (copyLocs_grows h (cols.map fun c => o.ranges.getD c 0)).trans (copyLocs_grows _ [o.text])
  cases buf with
  | some b => exact g2
  | none => exact g2.trans (copyLocs_grows _ [o.buf])

theorem step_grows (h : Heap) (op : Op) (hop : op.isLibrary = true) : Grows h (step h op) := by
  cases op <;> simp only [step]
  case load => exact List.prefix_append ..
  case view | sliceColsBasic | sliceColsAdv | fresh =>
    split
    · exact List.prefix_rfl
    · exact finalizeFrom_grows ..
  case query => exact List.prefix_rfl
  case rangeOf =>
    split
    · exact List.prefix_rfl
    · split <;> exact List.prefix_rfl
  case writeHandle | writeBuf => cases hop

theorem run_grows (h : Heap) (ops : List Op) (hops : ∀ op ∈ ops, op.isLibrary = true) : Grows h (run h ops) := by
  induction ops generalizing h with
  | nil => exact List.prefix_rfl
  | cons op ops ih =>
    exact (step_grows h op (hops op List.mem_cons_self)).trans (ih _ fun o ho => hops o (List.mem_cons_of_mem _ ho))

/-- **Frame, one step**: a library operation leaves the content of every existing
location unchanged (event values, range lists, dictionaries of every object that
existed before the call — in particular of its arguments). -/
theorem step_frame (h : Heap) (op : Op) (hop : op.isLibrary = true) (l : Loc) (hl : l < h.next) :
    (step h op).read l = h.read l :=
  (step_grows h op hop).read hl

/-- **Frame, every history**: after any sequence of library operations (any
number, any order, on any objects), every location that existed at the start
still holds the same content — so the answer of any query on a pre-existing
object does not depend on which other calls were made before it. -/
theorem history_frame (h : Heap) (ops : List Op) (hops : ∀ op ∈ ops, op.isLibrary = true)
    (l : Loc) (hl : l < h.next) : (run h ops).read l = h.read l :=
  (run_grows h ops hops).read hl

/-- Non-vacuity: load, slice channels, convert, query, keep a range handle — location contents stay put;
and the write through the handle (a caller's edit) is what changes a cell. -/
example : let h := run empty [.load 3, .sliceColsAdv 0 [2, 0], .fresh 1, .query 0, .rangeOf 0 1]
    (h.objs.length = 3 ∧ (run h [.writeHandle 0 7]).read 3 = 7 ∧ h.read 3 = 0) := by decide +kernel

end FlowCal.C13
