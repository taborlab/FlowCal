import Properties.C01
/-!
# C01 (continued) — whole rows and whole matrices round-trip through the mixed-width and uniform decoders
-/
namespace FlowCal.C01
open FlowCal.Data FlowCal.Py

/-- byte offsets of the columns: running sum of the byte widths, starting at `o` -/
def offsetsFrom : Nat → List Nat → List Nat
  | _, [] => []
  | o, b :: bs => o :: offsetsFrom (o + b) bs

/-- **`np.roll(np.cumsum(widths)//8, 1)` with element 0 zeroed is the running sum of the byte widths.** -/
theorem boundaries_eq (ws : List Nat) (h : ∀ w ∈ ws, w % 8 = 0) :
    boundaries ws = offsetsFrom 0 (ws.map (· / 8)) := by
  -- rolling the last entry away and putting the start `o` in front, for any start
  have aux : ∀ o, (o :: (cumsum ws).map (· / 8 + o)).dropLast = offsetsFrom o (ws.map (· / 8)) := by
    induction ws with
    | nil => exact fun _ => rfl
    | cons x xs ih =>
      intro o
      have hc : ∀ c, (c + x) / 8 + o = c / 8 + (o + x / 8) := fun c => by
        have := Nat.add_mul_div_left c (x / 8) (y := 8) (by decide)
        rw [Nat.mul_div_cancel' (Nat.dvd_of_mod_eq_zero (h x List.mem_cons_self))] at this
        rw [this, Nat.add_assoc, Nat.add_comm (x / 8)]
      rw [cumsum, List.map_cons, List.map_map, List.dropLast_cons_cons, List.map_cons, offsetsFrom, Nat.add_comm (x / 8) o,
        ← ih (fun w hw => h w (List.mem_cons_of_mem _ hw))]
      simp only [Function.comp_def, hc]
  cases ws with
  | nil => rfl
  | cons w ws => exact aux 0

theorem le_two_pow_clog2 (n : Nat) : n ≤ 2 ^ clog2 n := by
  unfold clog2
  split
  · omega
  · have := Nat.lt_log2_self (n := n - 1)
    omega

theorem le_foldl_max (ws : List Nat) (a : Nat) : a ≤ ws.foldl max a ∧ ∀ w ∈ ws, w ≤ ws.foldl max a := by
  induction ws generalizing a with
  | nil => simp
  | cons x xs ih =>
    obtain ⟨h1, h2⟩ := ih (max a x)
    simp only [List.foldl_cons, List.mem_cons, forall_eq_or_imp]
    exact ⟨by omega, by omega, h2⟩

/-- the container chosen by the source is wide enough for every parameter -/
theorem le_upcastBits (ws : List Nat) : ∀ w ∈ ws, w ≤ upcastBits ws := fun w hw =>
  Nat.le_trans ((le_foldl_max ws 0).2 w hw) (le_two_pow_clog2 _)

/-- One row decoded column by column at the running offsets, after an arbitrary prefix `pre`, by any cell decoder `cell` that
inverts `toBytes` on the values at hand: `accumulate` on the mixed-width path, `ofBytes` on the uniform one. -/
theorem decode_cols (cell : Nat → List Nat → Nat) (be : Bool) (ws vals : List Nat) (pre : List Nat)
    (hlen : ws.length = vals.length)
    (hcell : ∀ p ∈ ws.zip vals, cell (p.1 / 8) (toBytes be (p.1 / 8) p.2) = p.2) (post : List Nat) :
    (ws.zip (offsetsFrom pre.length (ws.map (· / 8)))).map
        (fun p => cell (p.1 / 8) (((pre ++ encodeRow be ws vals ++ post).drop p.2).take (p.1 / 8)))
      = vals := by
  induction ws generalizing vals pre with
  | nil => exact (List.eq_nil_of_length_eq_zero hlen.symm).symm
  | cons w ws ih =>
    cases vals with
    | nil => simp at hlen
    | cons v vals =>
      have henc : encodeRow be (w :: ws) (v :: vals) = toBytes be (w / 8) v ++ encodeRow be ws vals := rfl
      -- the remaining columns, with the first cell's bytes moved into the prefix
      have := ih vals (pre ++ toBytes be (w / 8) v) (Nat.succ.inj hlen) fun p hp => hcell p (List.mem_cons_of_mem _ hp)
      rw [List.length_append, toBytes_length, List.append_assoc pre] at this
      rw [List.map_cons, offsetsFrom, List.zip_cons_cons, List.map_cons, henc, this, List.append_assoc, List.append_assoc,
        List.drop_left, List.take_left' (toBytes_length be (w / 8) v), hcell (w, v) List.mem_cons_self]

/-- **A whole row of mixed-width integers round-trips**: for every list of byte-aligned widths, both byte
orders, and values that fit their widths, decoding the encoded row — exactly as the source does, at offsets
`np.roll(cumsum(widths)//8, 1)` in a container of `upcast` bits — returns the values. Bytes after the row are irrelevant. -/
theorem decodeRowMixed_encodeRow (be : Bool) (ws vals : List Nat) (post : List Nat)
    (hlen : ws.length = vals.length) (h8 : ∀ w ∈ ws, w % 8 = 0)
    (hU : ∀ w ∈ ws, w ≤ upcastBits ws)
    (hv : ∀ p ∈ ws.zip vals, p.2 < 2 ^ p.1) :
    decodeRowMixed be ws (encodeRow be ws vals ++ post) = vals := by
  unfold decodeRowMixed
  simp only
  rw [boundaries_eq ws h8]
  simpa using decode_cols (accumulate be (upcastBits ws)) be ws vals [] hlen (fun p hp => by
    have hw := List.of_mem_zip hp
    exact accumulate_toBytes be _ _ _ (pow256_div8 (h8 p.1 hw.1) ▸ hv p hp) (Nat.le_trans (Nat.mul_div_le ..) (hU p.1 hw.1))) post

/-- the container chosen by the source is wide enough for every byte-aligned width up to 64 bits -/
theorem upcast_covers : ∀ w ∈ [8, 16, 24, 32, 40, 48, 56, 64], w ≤ 2 ^ clog2 w := fun w _ => le_two_pow_clog2 w

theorem zip_replicate_left (w : Nat) (r : List Nat) : (List.replicate r.length w).zip r = r.map fun v => (w, v) := by
  induction r with
  | nil => rfl
  | cons v r ih => simp [List.replicate_succ, ih]

theorem offsetsFrom_replicate (o D k : Nat) : offsetsFrom o (List.replicate D k) = (List.range D).map fun c => o + c * k := by
  induction D generalizing o with
  | zero => rfl
  | succ D ih =>
    rw [List.replicate_succ, offsetsFrom, ih, List.range_succ_eq_map, List.map_cons, List.map_map]
    simp only [Nat.zero_mul, Nat.add_zero, List.cons.injEq, true_and]
    exact List.map_congr_left fun c _ => by simp only [Function.comp, Nat.succ_mul]; omega

/-- uniform-width path (`np.memmap` with dtype `>uK` / `<uK`): the mixed-width decoding at offsets `c * (w / 8)`, with `ofBytes` for
`accumulate` -/
theorem decodeRowUniform_eq (be : Bool) (w D : Nat) (row : List Nat) :
    decodeRowUniform be w D row = ((List.replicate D w).zip (offsetsFrom 0 ((List.replicate D w).map (· / 8)))).map
      fun p => ofBytes be ((row.drop p.2).take (p.1 / 8)) := by
  have := zip_replicate_left w (List.range D)
  rw [List.length_range] at this
  simp [decodeRowUniform, offsetsFrom_replicate, List.zip_map_right, this]

theorem zip_replicate_mem (D w : Nat) (r : List Nat) (p : Nat × Nat) (hp : p ∈ (List.replicate D w).zip r) : p.1 = w ∧ p.2 ∈ r :=
  ⟨(List.mem_replicate.mp (List.of_mem_zip hp).1).2, (List.of_mem_zip hp).2⟩

theorem decodeRowUniform_encodeRow (be : Bool) (w : Nat) (vals : List Nat) (hv : ∀ v ∈ vals, v < 256 ^ (w / 8)) :
    decodeRowUniform be w vals.length (encodeRow be (List.replicate vals.length w) vals) = vals := by
  rw [decodeRowUniform_eq]
  simpa using decode_cols (fun _ => ofBytes be) be (List.replicate vals.length w) vals [] (by simp) (fun p hp => by
    obtain ⟨hw, hp2⟩ := zip_replicate_mem _ w vals p hp
    rw [hw]
    exact ofBytes_toBytes be _ _ (hv _ hp2)) []

/-! ## Whole matrices -/

theorem encodeRow_length (be : Bool) (ws vals : List Nat) (hlen : ws.length = vals.length) :
    (encodeRow be ws vals).length = rowBytes ws := by
  -- a cell of `w` bits takes `w / 8` bytes, and `ws` is the first component of its zip with `vals`
  rw [encodeRow, List.length_flatMap, rowBytes]
  simp only [toBytes_length]
  conv => rhs; rw [← List.map_fst_zip (Nat.le_of_eq hlen), List.map_map]
  rfl

/-- The reader cuts the segment into the encoded rows: a row decoder that inverts `encodeRow` on the rows of `m` inverts
`encodeEvents` on `m`. -/
theorem map_chunks_encode (be : Bool) (ws : List Nat) (m : List (List Nat)) (dec : List Nat → List Nat)
    (hrows : ∀ r ∈ m, ws.length = r.length) (hdec : ∀ r ∈ m, dec (encodeRow be ws r) = r) :
    (chunks (rowBytes ws) m.length (encodeEvents be ws m)).map dec = m := by
  induction m with
  | nil => rfl
  | cons r m ih =>
    have hl := encodeRow_length be ws r (hrows r (by simp))
    simp only [List.length_cons, chunks, encodeEvents, List.flatMap_cons, List.map_cons]
    rw [List.take_left' hl, List.drop_left' hl, hdec r (by simp)]
    exact congrArg _ (ih (fun r' hr' => hrows r' (by simp [hr'])) fun r' hr' => hdec r' (by simp [hr']))

/-- well-formed event matrix for a width vector: one value per parameter, each fitting its width -/
def WellFormed (ws : List Nat) (m : List (List Nat)) : Prop :=
  ∀ r ∈ m, ws.length = r.length ∧ ∀ p ∈ ws.zip r, p.2 < 2 ^ p.1

instance (ws : List Nat) (m : List (List Nat)) : Decidable (WellFormed ws m) := by unfold WellFormed; infer_instance

theorem encodeEvents_length (be : Bool) (ws : List Nat) (m : List (List Nat)) (hm : WellFormed ws m) :
    (encodeEvents be ws m).length = m.length * rowBytes ws := by
  rw [encodeEvents, List.length_flatMap, List.map_congr_left fun r hr => encodeRow_length be ws r (hm r hr).1,
    List.map_const', List.sum_replicate_nat]

/-- all-zero widths are refused (the upcast container would have no bytes) -/
example : readData [70, 1] 1 1 .I 1 [0] false none = .error .TypeError := by decide +kernel

/-- non-vacuity: a well-formed 2-event matrix of widths [8, 40, 64] -/
example : WellFormed [8, 40, 64] [[255, 2^40 - 1, 2^64 - 1], [0, 1, 2^63]] := by decide +kernel

end FlowCal.C01
