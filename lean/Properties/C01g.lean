import Properties.C01e
import Properties.C01d
import Properties.C16c
/-!
# C01 — the general whole-file statement: every version, every datatype, both byte orders, DATA offsets from the HEADER or from TEXT
(the DATA paths themselves are `readData_roundtrip` and its instances in `Properties.C01e`)
-/
namespace FlowCal.C01
open FlowCal.Data FlowCal.Py FlowCal.File FlowCal.Text

/-! ### the whole of `loadFile`, stage by stage -/

/-- a `for` loop whose every step succeeds and appends one value collects exactly those values -/
theorem forIn_collect {α β : Type} (l : List α) (step : α → List β → Except PyErr (ForInStep (List β))) (g : α → β) (init : List β)
    (h : ∀ a ∈ l, ∀ acc, step a acc = .ok (ForInStep.yield (acc ++ [g a]))) :
    forIn l init step = (.ok (init ++ l.map g) : Except PyErr (List β)) := by
  induction l generalizing init with
  | nil => simp [forIn, pure, Except.pure]
  | cons a l ih =>
    simp only [List.forIn_cons, h a (by simp) init, bind, Except.bind]
    rw [ih (init ++ [g a]) (fun b hb => h b (by simp [hb]))]
    simp

/-- the layout checks succeed for every supported datatype and every supported spelling of the byte order -/
theorem checkLayout_ok_gen (text : Dict) (D : Nat) (wsf : Nat → Int) (dts bo : Bytes) (ndv : Int)
    (hmode : lookup text "$MODE" = .ok (s2l "L")) (hdt : lookup text "$DATATYPE" = .ok dts)
    (hdts : dts = s2l "I" ∨ dts = s2l "F" ∨ dts = s2l "D")
    (hpar : intKw text "$PAR" = .ok (D : Int))
    (hws : ∀ p, p < D → intKw text s!"$P{p+1}B" = .ok (wsf p))
    (h8 : dts = s2l "I" → ∀ p, p < D → wsf p % 8 = 0)
    (hbo : lookup text "$BYTEORD" = .ok bo)
    (hbos : bo = s2l "1,2,3,4" ∨ bo = s2l "4,3,2,1" ∨ bo = s2l "1,2" ∨ bo = s2l "2,1")
    (hnd : intKw text "$NEXTDATA" = .ok ndv) :
    checkLayout text = .ok (dts, (D : Int), (List.range D).map wsf, bo == s2l "4,3,2,1" || bo == s2l "2,1", ndv != 0) := by
  have e2 : (dts == s2l "I" || dts == s2l "F" || dts == s2l "D") = true := by
    simpa only [Bool.or_eq_true, beq_iff_eq, or_assoc] using hdts
  have e4 : (bo == s2l "4,3,2,1" || bo == s2l "2,1" || bo == s2l "1,2,3,4" || bo == s2l "1,2") = true := by
    rcases hbos with h | h | h | h <;> simp only [h, beq_self_eq_true, Bool.or_true, Bool.true_or]
  have hall : dts = s2l "I" → ((List.range D).map wsf).all (fun w => w % 8 == 0) = true := fun hI =>
    List.all_eq_true.2 (List.forall_mem_map.2 fun p hp => beq_iff_eq.2 (h8 hI p (List.mem_range.1 hp)))
  unfold checkLayout
  simp only [bind, Except.bind, hmode, hdt, hpar, hbo, hnd, bne_self_eq_false, e2, e4, Bool.not_true, Bool.false_eq_true, if_false, pure, Except.pure, Int.toNat_natCast]
  rw [forIn_collect (List.range D) _ wsf [] fun a ha acc => by rw [hws a (List.mem_range.mp ha)]]
  by_cases hI : dts = s2l "I"
  · simp only [List.nil_append, hall hI, beq_iff_eq, hI, if_true, Bool.not_true, Bool.false_eq_true, if_false]
  · simp only [List.nil_append, beq_iff_eq, hI, if_false]

/-- the `$PnR` stage succeeds when every range keyword is present and yields a bit count -/
theorem readBits_ok (text : Dict) (D : Nat) (rf : Nat → Bytes) (bf : Nat → Option Nat)
    (hr : ∀ p, p < D → lookup text s!"$P{p+1}R" = .ok (rf p)) (hb : ∀ p, p < D → rangeBits (rf p) = .ok (bf p)) :
    readBits text (D : Int) = .ok ((List.range D).map bf) := by
  unfold readBits
  simp only [bind, Except.bind, pure, Except.pure, Int.toNat_natCast]
  rw [forIn_collect (List.range D) _ bf [] fun a ha acc => by simp only [hr a (List.mem_range.mp ha), hb a (List.mem_range.mp ha)]]
  simp

/-- no supplemental TEXT: FCS 2.0, or FCS 3.x with a zero `$BEGINSTEXT` or `$ENDSTEXT` -/
def NoStext (h : Header) (text : Dict) : Prop :=
  isV3 h.version = false ∨ ∃ sb se, intKw text "$BEGINSTEXT" = .ok sb ∧ intKw text "$ENDSTEXT" = .ok se ∧ (sb = 0 ∨ se = 0)

/-- no ANALYSIS segment: a zero HEADER offset and, for FCS 3.x, a zero `$BEGINANALYSIS` or `$ENDANALYSIS` -/
def NoAnalysis (h : Header) (text : Dict) : Prop :=
  (h.analysisBegin = 0 ∨ h.analysisEnd = 0) ∧
  (isV3 h.version = false ∨ ∃ ab ae, intKw text "$BEGINANALYSIS" = .ok ab ∧ intKw text "$ENDANALYSIS" = .ok ae ∧ (ab = 0 ∨ ae = 0))

theorem mergeText_noStext (file : Bytes) (h : Header) (text : Dict) (dl : Option Nat) (w0 : Bool) (hs : NoStext h text) :
    mergeText file h (text, dl, w0) = .ok (text, if w0 then ["text"] else []) := by
  unfold mergeText
  rcases hs with hv | ⟨sb, se, h1, h2, hz⟩
  · simp [hv]
  · cases hv : isV3 h.version
    · simp
    · rcases hz with rfl | rfl <;> simp [h1, h2]

theorem readAnalysis_none (file : Bytes) (h : Header) (text : Dict) (dl : Option Nat) (ha : NoAnalysis h text) :
    readAnalysis file h dl text = .ok ([], false) := by
  unfold readAnalysis
  obtain ⟨hz, hv⟩ := ha
  have e1 : (h.analysisBegin != 0 && h.analysisEnd != 0) = false := by
    rcases hz with hz | hz <;> simp [hz]
  simp only [e1, Bool.false_eq_true, if_false]
  rcases hv with hv | ⟨ab, ae, h1, h2, hz2⟩
  · simp [hv, pure, Except.pure]
  · cases hv : isV3 h.version
    · simp [pure, Except.pure]
    · rcases hz2 with rfl | rfl <;> simp [h1, h2, bind, Except.bind, pure, Except.pure]

/-- the HEADER's DATA offsets win whenever both are non-zero: the keywords are not consulted -/
theorem dataOffsets_header_priority (h : Header) (text : Dict) (hb : h.dataBegin ≠ 0) (he : h.dataEnd ≠ 0) :
    dataOffsets h text = .ok (h.dataBegin, h.dataEnd) := by
  unfold dataOffsets; simp [hb, he]

/-- FCS 3.x: when a HEADER offset is 0, `$BEGINDATA` / `$ENDDATA` are used -/
theorem dataOffsets_text_fallback (h : Header) (text : Dict) (b e : Int) (hz : h.dataBegin = 0 ∨ h.dataEnd = 0)
    (hv : isV3 h.version = true) (hb : intKw text "$BEGINDATA" = .ok b) (he : intKw text "$ENDDATA" = .ok e)
    (hb0 : b ≠ 0) (he0 : e ≠ 0) : dataOffsets h text = .ok (b, e) := by
  unfold dataOffsets
  rcases hz with hz | hz <;> simp [hz, hv, hb, he, hb0, he0]

/-- FCS 2.0 never falls back: a zero HEADER offset is an error -/
theorem dataOffsets_v2_zero (h : Header) (text : Dict) (hz : h.dataBegin = 0 ∨ h.dataEnd = 0) (hv : isV3 h.version = false) :
    dataOffsets h text = .error .ValueError := by
  unfold dataOffsets
  rcases hz with hz | hz <;> simp [hz, hv]

/-- **`loadFile` is the composition of its stages**: when every stage succeeds, the result carries the merged keywords, the ANALYSIS
dictionary, the events `readData` decodes at the offsets `dataOffsets` chooses, and the warnings of the stages in order. -/
theorem loadFile_of_stages (file : Bytes) (h : Header) (t : Dict × Option Nat × Bool) (text : Dict) (warns0 : List String)
    (dts : Bytes) (par : Int) (ws : List Int) (big nd : Bool) (an : Dict) (bad : Bool) (bits : List (Option Nat))
    (db de tot : Int) (data : List (List Nat))
    (hh : parseHeader file = .ok h) (ht : readTextSeg file h.textBegin h.textEnd none false = .ok t)
    (hm : mergeText file h t = .ok (text, warns0)) (hc : checkLayout text = .ok (dts, par, ws, big, nd))
    (ha : readAnalysis file h t.2.1 text = .ok (an, bad)) (hb : readBits text par = .ok bits)
    (ho : dataOffsets h text = .ok (db, de)) (htot : intKw text "$TOT" = .ok tot)
    (h0 : 0 ≤ tot) (h1 : 0 ≤ db) (h2 : 0 ≤ de) (hwn : ∀ w ∈ ws, 0 ≤ w)
    (hbits : dtypeOf dts = .I → ∀ b ∈ bits, b.isSome = true)
    (hread : readData file db.toNat de.toNat (dtypeOf dts) tot.toNat (ws.map Int.toNat) big (some (bits.map (·.getD 0))) = .ok data) :
    loadFile file = .ok ⟨text, an, data, ws.length, dtypeOf dts != .I, widthOf (dtypeOf dts) (ws.map Int.toNat),
      warns0 ++ (if nd then ["nextdata"] else []) ++ (if bad then ["analysis"] else [])⟩ := by
  refine loadFile_eq_ok_iff.2 ⟨h, t, _, hh, ht, loadKeywords_eq_ok_iff.2 ⟨_, _, _, _, _, _, _, _, _, _, hm, hc, ha, hb, rfl⟩, ?_⟩
  exact loadData_eq_ok_iff.2 ⟨db, de, tot, data, ho, htot, ⟨h0, h1, h2⟩, hwn, hbits, hread, rfl⟩

/-- **Keywords that describe the DATA segment make the file load exactly its events** — every version, every supported datatype
and byte-order spelling, DATA offsets from the HEADER or (FCS 3.x, zero HEADER offset) from `$BEGINDATA`/`$ENDDATA`. -/
theorem loadFile_of_keywords_gen (file : Bytes) (h : Header) (text : Dict) (dl : Option Nat) (w0 : Bool)
    (D n : Nat) (wsf : Nat → Int) (rf : Nat → Bytes) (bf : Nat → Option Nat) (dts bo : Bytes) (ndv db de : Int) (events : List (List Nat))
    (hh : parseHeader file = .ok h)
    (ht : readTextSeg file h.textBegin h.textEnd none false = .ok (text, dl, w0))
    (hs : NoStext h text) (ha : NoAnalysis h text)
    (hmode : lookup text "$MODE" = .ok (s2l "L")) (hdt : lookup text "$DATATYPE" = .ok dts)
    (hdts : dts = s2l "I" ∨ dts = s2l "F" ∨ dts = s2l "D")
    (hpar : intKw text "$PAR" = .ok (D : Int))
    (hws : ∀ p, p < D → intKw text s!"$P{p+1}B" = .ok (wsf p)) (h8 : dts = s2l "I" → ∀ p, p < D → wsf p % 8 = 0)
    (hwpos : ∀ p, p < D → 0 ≤ wsf p)
    (hbo : lookup text "$BYTEORD" = .ok bo)
    (hbos : bo = s2l "1,2,3,4" ∨ bo = s2l "4,3,2,1" ∨ bo = s2l "1,2" ∨ bo = s2l "2,1")
    (hnd : intKw text "$NEXTDATA" = .ok ndv)
    (hr : ∀ p, p < D → lookup text s!"$P{p+1}R" = .ok (rf p)) (hb : ∀ p, p < D → rangeBits (rf p) = .ok (bf p))
    (hbI : dts = s2l "I" → ∀ p, p < D → (bf p).isSome = true)
    (ho : dataOffsets h text = .ok (db, de)) (hdb0 : 0 ≤ db) (hde0 : 0 ≤ de)
    (htot : intKw text "$TOT" = .ok (n : Int))
    (hread : readData file db.toNat de.toNat (dtypeOf dts) n ((List.range D).map (fun p => (wsf p).toNat))
      (bo == s2l "4,3,2,1" || bo == s2l "2,1") (some ((List.range D).map (fun p => (bf p).getD 0))) = .ok events) :
    loadFile file = .ok ⟨text, [], events, D, dtypeOf dts != .I, widthOf (dtypeOf dts) ((List.range D).map (fun p => (wsf p).toNat)),
      (if w0 then ["text"] else []) ++ (if ndv != 0 then ["nextdata"] else [])⟩ := by
  have hws' : ((List.range D).map wsf).map Int.toNat = (List.range D).map (fun p => (wsf p).toNat) := List.map_map
  have hbf' : ((List.range D).map bf).map (·.getD 0) = (List.range D).map (fun p => (bf p).getD 0) := List.map_map
  have := loadFile_of_stages file h _ _ _ _ _ _ _ _ _ _ _ _ _ _ _ hh ht
    (mergeText_noStext file h text dl w0 hs)
    (checkLayout_ok_gen text D wsf dts bo ndv hmode hdt hdts hpar hws h8 hbo hbos hnd)
    (readAnalysis_none file h text dl ha) (readBits_ok text D rf bf hr hb) ho htot (Int.natCast_nonneg n) hdb0 hde0
    (List.forall_mem_map.2 fun p hp => hwpos p (List.mem_range.1 hp))
    (fun hdI => List.forall_mem_map.2 fun p hp => hbI (dtypeOf_eq_I.1 hdI) p (List.mem_range.1 hp))
    (by rw [hws', hbf']; exact hread)
  rw [hws', List.length_map, List.length_range] at this
  simpa only [Bool.false_eq_true, if_false, List.append_nil] using this

/-- the keywords of `text` describe a list-mode DATA segment of `n` events × `D` parameters: widths `wsf`, ranges `rf` whose bit
counts are `bf`, datatype `dts`, byte order `bo` -/
structure Describes (text : Dict) (D n : Nat) (wsf : Nat → Int) (rf : Nat → Bytes) (bf : Nat → Option Nat) (dts bo : Bytes) (ndv : Int) : Prop where
  mode : lookup text "$MODE" = .ok (s2l "L")
  dt : lookup text "$DATATYPE" = .ok dts
  dts_ok : dts = s2l "I" ∨ dts = s2l "F" ∨ dts = s2l "D"
  par : intKw text "$PAR" = .ok (D : Int)
  ws : ∀ p, p < D → intKw text s!"$P{p+1}B" = .ok (wsf p)
  w8 : dts = s2l "I" → ∀ p, p < D → wsf p % 8 = 0
  wpos : ∀ p, p < D → 0 ≤ wsf p
  byteord : lookup text "$BYTEORD" = .ok bo
  byteords : bo = s2l "1,2,3,4" ∨ bo = s2l "4,3,2,1" ∨ bo = s2l "1,2" ∨ bo = s2l "2,1"
  nd : intKw text "$NEXTDATA" = .ok ndv
  r : ∀ p, p < D → lookup text s!"$P{p+1}R" = .ok (rf p)
  b : ∀ p, p < D → rangeBits (rf p) = .ok (bf p)
  bI : dts = s2l "I" → ∀ p, p < D → (bf p).isSome = true
  tot : intKw text "$TOT" = .ok (n : Int)

/-- big-endian? as `FCSFile.__init__` decides it from `$BYTEORD` -/
def isBig (bo : Bytes) : Bool := bo == s2l "4,3,2,1" || bo == s2l "2,1"

/-- **Loading returns exactly the events recorded in the file** (no supplemental TEXT, no ANALYSIS segment): every accepted datatype
and layout, any FCS version, either byte order, DATA offsets taken from the HEADER or from TEXT, either end convention, anything before
and after the DATA segment.  The keywords give `readData` the widths `ws` and the masks of the declared ranges, so this is
`readData_roundtrip` behind `loadFile_of_keywords_gen`. -/
theorem loadFile_events {pre post : Bytes} {h : Header} {text : Dict} {dl : Option Nat} {w0 : Bool}
    {D : Nat} {wsf : Nat → Int} {rf : Nat → Bytes} {bf : Nat → Option Nat} {dts bo : Bytes} {ndv : Int}
    {m : List (List Nat)} {ws : List Nat} {past : Bool}
    (hwsEq : ws = (List.range D).map (fun p => (wsf p).toNat))
    (hfile : parseHeader (pre ++ encodeEvents (isBig bo) ws m ++ post) = .ok h)
    (ht : readTextSeg (pre ++ encodeEvents (isBig bo) ws m ++ post) h.textBegin h.textEnd none false = .ok (text, dl, w0))
    (hs : NoStext h text) (ha : NoAnalysis h text) (hd : Describes text D m.length wsf rf bf dts bo ndv)
    (ho : dataOffsets h text = .ok ((pre.length : Nat), ((pre.length + m.length * rowBytes ws - (if past then 0 else 1) : Nat) : Int)))
    (hne : pre ≠ []) (hext : 0 < m.length * rowBytes ws ∨ past = true)
    (hL : LayoutOk (dtypeOf dts) ws) (hwf : WellFormed ws m)
    (hI : dtypeOf dts = .I → (∀ b ∈ (List.range D).map (fun p => (bf p).getD 0), b ≤ resultWidth ws) ∧
      FitsBits ((List.range D).map (fun p => (bf p).getD 0)) m) :
    ∃ L, loadFile (pre ++ encodeEvents (isBig bo) ws m ++ post) = .ok L ∧ L.data = m ∧ L.text = text ∧ L.analysis = [] ∧ L.npar = D := by
  have hread := readData_roundtrip (dtypeOf dts) (isBig bo) ws (some ((List.range D).map (fun p => (bf p).getD 0))) m pre post past
    hL hwf hne hext (by rintro _ ⟨⟩; simp [hwsEq]) (fun h _ hl => by cases hl; exact (hI h).1) (fun h _ hl => by cases hl; exact (hI h).2)
  subst hwsEq
  exact ⟨_, loadFile_of_keywords_gen _ h text dl w0 D _ wsf rf bf dts bo ndv _ _ m hfile ht hs ha hd.mode hd.dt hd.dts_ok hd.par hd.ws hd.w8
    hd.wpos hd.byteord hd.byteords hd.nd hd.r hd.b hd.bI ho (by omega) (by omega) hd.tot hread, rfl, rfl, rfl, rfl⟩

/-- **Loading returns exactly the events recorded in the file — mixed-width integer data**, any FCS version, either byte order,
DATA offsets taken from the HEADER or from TEXT, either end convention, anything before and after the DATA segment. -/
theorem loadFile_events_mixed (pre post : Bytes) (h : Header) (text : Dict) (dl : Option Nat) (w0 : Bool)
    (D : Nat) (wsf : Nat → Int) (rf : Nat → Bytes) (bf : Nat → Option Nat) (bo : Bytes) (ndv : Int)
    (m : List (List Nat)) (ws : List Nat) (past : Bool)
    (hwsEq : ws = (List.range D).map (fun p => (wsf p).toNat))
    (hfile : parseHeader (pre ++ encodeEvents (isBig bo) ws m ++ post) = .ok h)
    (ht : readTextSeg (pre ++ encodeEvents (isBig bo) ws m ++ post) h.textBegin h.textEnd none false = .ok (text, dl, w0))
    (hs : NoStext h text) (ha : NoAnalysis h text) (hd : Describes text D m.length wsf rf bf (s2l "I") bo ndv)
    (ho : dataOffsets h text = .ok ((pre.length : Nat), ((pre.length + m.length * rowBytes ws - (if past then 0 else 1) : Nat) : Int)))
    (hne : pre ≠ []) (hext : 0 < m.length * rowBytes ws ∨ past = true)
    (hu : isUniform ws = false) (h64 : ∀ w ∈ ws, w ≤ 64) (hU : ∀ w ∈ ws, w ≤ upcastBits ws) (hpos : ws.foldl max 0 ≠ 0)
    (hwf : WellFormed ws m)
    (hfits : ∀ b ∈ (List.range D).map (fun p => (bf p).getD 0), b ≤ upcastBits ws)
    (hbits : FitsBits ((List.range D).map (fun p => (bf p).getD 0)) m) :
    ∃ L, loadFile (pre ++ encodeEvents (isBig bo) ws m ++ post) = .ok L ∧ L.data = m ∧ L.text = text ∧ L.analysis = [] ∧ L.npar = D := by
  have _ := hU   -- not needed: it holds of every `ws` (`le_upcastBits`)
  have h8 : ∀ w ∈ ws, w % 8 = 0 := by
    rw [hwsEq]
    refine List.forall_mem_map.2 fun p hp => ?_
    have := hd.w8 rfl p (List.mem_range.1 hp)
    have := hd.wpos p (List.mem_range.1 hp)
    omega
  refine loadFile_events hwsEq hfile ht hs ha hd ho hne hext ?_ hwf fun _ => ⟨?_, hbits⟩
  · simpa only [dtypeOf_I, LayoutOk, hu, Bool.false_eq_true, if_false] using ⟨h8, h64, hpos⟩
  · simpa only [resultWidth, hu, Bool.false_eq_true, if_false] using hfits

/-- **… — uniform integer data** (every parameter 8, 16, 32 or 64 bits wide) -/
theorem loadFile_events_uniform (pre post : Bytes) (h : Header) (text : Dict) (dl : Option Nat) (w0 : Bool)
    (D w : Nat) (rf : Nat → Bytes) (bf : Nat → Option Nat) (bo : Bytes) (ndv : Int)
    (m : List (List Nat)) (past : Bool)
    (hw : w = 8 ∨ w = 16 ∨ w = 32 ∨ w = 64) (hD : 0 < D)
    (hfile : parseHeader (pre ++ encodeEvents (isBig bo) (List.replicate D w) m ++ post) = .ok h)
    (ht : readTextSeg (pre ++ encodeEvents (isBig bo) (List.replicate D w) m ++ post) h.textBegin h.textEnd none false = .ok (text, dl, w0))
    (hs : NoStext h text) (ha : NoAnalysis h text) (hd : Describes text D m.length (fun _ => (w : Int)) rf bf (s2l "I") bo ndv)
    (ho : dataOffsets h text = .ok ((pre.length : Nat),
      ((pre.length + m.length * rowBytes (List.replicate D w) - (if past then 0 else 1) : Nat) : Int)))
    (hne : pre ≠ []) (hext : 0 < m.length * rowBytes (List.replicate D w) ∨ past = true)
    (hwf : WellFormed (List.replicate D w) m)
    (hfits : ∀ b ∈ (List.range D).map (fun p => (bf p).getD 0), b ≤ w)
    (hbits : FitsBits ((List.range D).map (fun p => (bf p).getD 0)) m) :
    ∃ L, loadFile (pre ++ encodeEvents (isBig bo) (List.replicate D w) m ++ post) = .ok L ∧ L.data = m ∧ L.text = text ∧ L.analysis = [] ∧ L.npar = D := by
  have hu : isUniform (List.replicate D w) = true := (isUniform_iff _).mpr ⟨w, hw, by rw [List.length_replicate]⟩
  refine loadFile_events (by simp [List.map_const']) hfile ht hs ha hd ho hne hext ?_ hwf fun _ => ⟨?_, hbits⟩
  · simpa only [dtypeOf_I, LayoutOk, hu, if_true, ne_eq, List.replicate_eq_nil_iff] using Nat.ne_of_gt hD
  · simpa only [resultWidth, hu, if_true, headD_replicate (Nat.ne_of_gt hD)] using hfits

/-- **… — floating-point data** (`$DATATYPE` F with 32-bit or D with 64-bit parameters): the recorded bit patterns come back -/
theorem loadFile_events_float (pre post : Bytes) (h : Header) (text : Dict) (dl : Option Nat) (w0 : Bool)
    (D : Nat) (dbl : Bool) (rf : Nat → Bytes) (bf : Nat → Option Nat) (bo : Bytes) (ndv : Int)
    (m : List (List Nat)) (past : Bool)
    (hfile : parseHeader (pre ++ encodeEvents (isBig bo) (List.replicate D (if dbl then 64 else 32)) m ++ post) = .ok h)
    (ht : readTextSeg (pre ++ encodeEvents (isBig bo) (List.replicate D (if dbl then 64 else 32)) m ++ post) h.textBegin h.textEnd none false
      = .ok (text, dl, w0))
    (hs : NoStext h text) (ha : NoAnalysis h text)
    (hd : Describes text D m.length (fun _ => ((if dbl then 64 else 32 : Nat) : Int)) rf bf (if dbl then s2l "D" else s2l "F") bo ndv)
    (ho : dataOffsets h text = .ok ((pre.length : Nat),
      ((pre.length + m.length * rowBytes (List.replicate D (if dbl then 64 else 32)) - (if past then 0 else 1) : Nat) : Int)))
    (hne : pre ≠ []) (hext : 0 < m.length * rowBytes (List.replicate D (if dbl then 64 else 32)) ∨ past = true)
    (hwf : WellFormed (List.replicate D (if dbl then 64 else 32)) m) :
    ∃ L, loadFile (pre ++ encodeEvents (isBig bo) (List.replicate D (if dbl then 64 else 32)) m ++ post) = .ok L ∧ L.data = m ∧ L.text = text
      ∧ L.analysis = [] ∧ L.npar = D := by
  have hdt : dtypeOf (if dbl then s2l "D" else s2l "F") = if dbl then .D else .F := by
    cases dbl
    · exact dtypeOf_F
    · exact dtypeOf_D
  refine loadFile_events (by simp [List.map_const']) hfile ht hs ha hd ho hne hext ?_ hwf fun hI => ?_
  · rw [hdt]; cases dbl <;> exact fun _ => List.eq_of_mem_replicate
  · rw [hdt] at hI; cases dbl <;> cases hI

/-! ### the hypotheses are jointly satisfiable: a complete 349-byte FCS3.0 file of the independent writer — big-endian single
precision floats (one of them a NaN pattern), DATA offsets only in TEXT (zero HEADER offsets), `|` as delimiter, three padding bytes
before and two after the DATA segment -/

def floatPre : List Nat := [70, 67, 83, 51, 46, 48, 32, 32, 32, 32, 32, 32, 32, 32, 32, 32, 53, 56, 32, 32, 32, 32, 32, 51, 50, 55, 32, 32, 32, 32, 32, 32, 32, 48, 32, 32, 32,
  32, 32, 32, 32, 48, 32, 32, 32, 32, 32, 32, 32, 48, 32, 32, 32, 32, 32, 32, 32, 48, 124, 36, 66, 69, 71, 73, 78, 65, 78, 65, 76, 89, 83, 73, 83, 124,
  48, 48, 48, 48, 48, 48, 48, 48, 48, 48, 124, 36, 69, 78, 68, 65, 78, 65, 76, 89, 83, 73, 83, 124, 48, 48, 48, 48, 48, 48, 48, 48, 48, 48, 124, 36,
  66, 69, 71, 73, 78, 83, 84, 69, 88, 84, 124, 48, 48, 48, 48, 48, 48, 48, 48, 48, 48, 124, 36, 69, 78, 68, 83, 84, 69, 88, 84, 124, 48, 48, 48, 48,
  48, 48, 48, 48, 48, 48, 124, 36, 66, 69, 71, 73, 78, 68, 65, 84, 65, 124, 48, 48, 48, 48, 48, 48, 48, 51, 51, 49, 124, 36, 69, 78, 68, 68, 65, 84,
  65, 124, 48, 48, 48, 48, 48, 48, 48, 51, 52, 54, 124, 36, 66, 89, 84, 69, 79, 82, 68, 124, 52, 44, 51, 44, 50, 44, 49, 124, 36, 68, 65, 84, 65, 84,
  89, 80, 69, 124, 70, 124, 36, 77, 79, 68, 69, 124, 76, 124, 36, 78, 69, 88, 84, 68, 65, 84, 65, 124, 48, 124, 36, 80, 65, 82, 124, 50, 124, 36, 84,
  79, 84, 124, 50, 124, 36, 80, 49, 66, 124, 51, 50, 124, 36, 80, 49, 78, 124, 65, 124, 36, 80, 49, 82, 124, 49, 48, 50, 52, 124, 36, 80, 49, 69, 124,
  48, 44, 48, 124, 36, 80, 50, 66, 124, 51, 50, 124, 36, 80, 50, 78, 124, 66, 124, 36, 80, 50, 82, 124, 50, 54, 50, 49, 52, 52, 124, 36, 80, 50, 69,
  124, 48, 44, 48, 124, 32, 32, 32]

def floatEvents : List (List Nat) := [[1069547520, 3222274048], [2143289344, 1]]

def floatHeader : Header := ⟨[70, 67, 83, 51, 46, 48], 58, 327, 0, 0, 0, 0⟩

def floatText : Dict := [(s2l "$BEGINANALYSIS", s2l "0000000000"), (s2l "$ENDANALYSIS", s2l "0000000000"), (s2l "$BEGINSTEXT", s2l "0000000000"), (s2l "$ENDSTEXT", s2l "0000000000"), (s2l "$BEGINDATA", s2l "0000000331"), (s2l "$ENDDATA", s2l "0000000346"), (s2l "$BYTEORD", s2l "4,3,2,1"), (s2l "$DATATYPE", s2l "F"), (s2l "$MODE", s2l "L"), (s2l "$NEXTDATA", s2l "0"), (s2l "$PAR", s2l "2"), (s2l "$TOT", s2l "2"), (s2l "$P1B", s2l "32"), (s2l "$P1N", s2l "A"), (s2l "$P1R", s2l "1024"), (s2l "$P1E", s2l "0,0"), (s2l "$P2B", s2l "32"), (s2l "$P2N", s2l "B"), (s2l "$P2R", s2l "262144"), (s2l "$P2E", s2l "0,0")]

def floatFile : List Nat := floatPre ++ encodeEvents (isBig (s2l "4,3,2,1")) (List.replicate 2 (if false then 64 else 32)) floatEvents ++ [32, 32]

instance {text : Dict} {D n : Nat} {wsf : Nat → Int} {rf : Nat → Bytes} {bf : Nat → Option Nat} {dts bo : Bytes} {ndv : Int} :
    Decidable (Describes text D n wsf rf bf dts bo ndv) :=
  decidable_of_iff (_ ∧ _ ∧ _ ∧ _ ∧ _ ∧ _ ∧ _ ∧ _ ∧ _ ∧ _ ∧ _ ∧ _ ∧ _ ∧ _)
    ⟨fun ⟨a, b, c, d, e, f, g, h, i, j, k, l, m, n⟩ => ⟨a, b, c, d, e, f, g, h, i, j, k, l, m, n⟩,
     fun ⟨a, b, c, d, e, f, g, h, i, j, k, l, m, n⟩ => ⟨a, b, c, d, e, f, g, h, i, j, k, l, m, n⟩⟩

/-- the theorem, not evaluation, gives the load of the concrete file.  Its hypotheses are closed facts about the file and are checked
by evaluation, those that look at `floatText` in one conjunction: the kernel then converts its string literals once instead of once
per lookup. -/
theorem floatFile_loads : ∃ L, loadFile floatFile = .ok L ∧ L.data = floatEvents ∧ L.text = floatText ∧ L.analysis = [] ∧ L.npar = 2 := by
  have ⟨hh, ht, hs1, hs2, ha1, ha2, ho, hd, hwf⟩ : parseHeader floatFile = .ok floatHeader ∧
      readTextSeg floatFile 58 327 none false = .ok (floatText, some 124, false) ∧
      intKw floatText "$BEGINSTEXT" = .ok 0 ∧ intKw floatText "$ENDSTEXT" = .ok 0 ∧
      intKw floatText "$BEGINANALYSIS" = .ok 0 ∧ intKw floatText "$ENDANALYSIS" = .ok 0 ∧
      dataOffsets floatHeader floatText = .ok ((floatPre.length : Nat),
        ((floatPre.length + floatEvents.length * rowBytes (List.replicate 2 (if false then 64 else 32)) - (if false then 0 else 1) : Nat) : Int)) ∧
      Describes floatText 2 floatEvents.length (fun _ => ((if false then 64 else 32 : Nat) : Int))
        (fun p => if p = 0 then s2l "1024" else s2l "262144") (fun p => if p = 0 then some 10 else some 18)
        (if false then s2l "D" else s2l "F") (s2l "4,3,2,1") 0 ∧
      WellFormed (List.replicate 2 (if false then 64 else 32)) floatEvents := by
    decide +kernel
  exact loadFile_events_float floatPre [32, 32] floatHeader floatText (some 124) false 2 false _ _ _ 0 floatEvents false
    hh ht (.inr ⟨0, 0, hs1, hs2, .inl rfl⟩) ⟨.inl rfl, .inr ⟨0, 0, ha1, ha2, .inl rfl⟩⟩ hd ho (by decide) (.inl (by decide)) hwf

/-- the file as the independent writer produced it (corpus/C01 checks the bytes against the writer and replays them on the real reader) -/
def floatFileBytes : List Nat := [70, 67, 83, 51, 46, 48, 32, 32, 32, 32, 32, 32, 32, 32, 32, 32, 53, 56, 32, 32, 32, 32, 32, 51, 50, 55, 32, 32, 32, 32, 32, 32, 32, 48, 32, 32, 32,
  32, 32, 32, 32, 48, 32, 32, 32, 32, 32, 32, 32, 48, 32, 32, 32, 32, 32, 32, 32, 48, 124, 36, 66, 69, 71, 73, 78, 65, 78, 65, 76, 89, 83, 73, 83, 124,
  48, 48, 48, 48, 48, 48, 48, 48, 48, 48, 124, 36, 69, 78, 68, 65, 78, 65, 76, 89, 83, 73, 83, 124, 48, 48, 48, 48, 48, 48, 48, 48, 48, 48, 124, 36,
  66, 69, 71, 73, 78, 83, 84, 69, 88, 84, 124, 48, 48, 48, 48, 48, 48, 48, 48, 48, 48, 124, 36, 69, 78, 68, 83, 84, 69, 88, 84, 124, 48, 48, 48, 48,
  48, 48, 48, 48, 48, 48, 124, 36, 66, 69, 71, 73, 78, 68, 65, 84, 65, 124, 48, 48, 48, 48, 48, 48, 48, 51, 51, 49, 124, 36, 69, 78, 68, 68, 65, 84,
  65, 124, 48, 48, 48, 48, 48, 48, 48, 51, 52, 54, 124, 36, 66, 89, 84, 69, 79, 82, 68, 124, 52, 44, 51, 44, 50, 44, 49, 124, 36, 68, 65, 84, 65, 84,
  89, 80, 69, 124, 70, 124, 36, 77, 79, 68, 69, 124, 76, 124, 36, 78, 69, 88, 84, 68, 65, 84, 65, 124, 48, 124, 36, 80, 65, 82, 124, 50, 124, 36, 84,
  79, 84, 124, 50, 124, 36, 80, 49, 66, 124, 51, 50, 124, 36, 80, 49, 78, 124, 65, 124, 36, 80, 49, 82, 124, 49, 48, 50, 52, 124, 36, 80, 49, 69, 124,
  48, 44, 48, 124, 36, 80, 50, 66, 124, 51, 50, 124, 36, 80, 50, 78, 124, 66, 124, 36, 80, 50, 82, 124, 50, 54, 50, 49, 52, 52, 124, 36, 80, 50, 69,
  124, 48, 44, 48, 124, 32, 32, 32, 63, 192, 0, 0, 192, 16, 0, 0, 127, 192, 0, 0, 0, 0, 0, 1, 32, 32]

theorem floatFile_eq : floatFile = floatFileBytes := by decide +kernel

end FlowCal.C01
