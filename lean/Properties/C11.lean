import FlowCalModel.Excel
import FlowCalModel.Generated
/-!
# C11 — In a batch, a failing row is reported in place and does not affect other rows
-/
namespace FlowCal.C11
open FlowCal.Excel

variable {Row R : Type}

/-- a row whose processing raises only documented faults (or succeeds) -/
def Contained (proc : Row → RowOutcome R) (row : Row) : Prop := proc row ≠ .escape

theorem processTable_cons_escape {proc : Row → RowOutcome R} {row : Row} (h : proc row = .escape) (id : String)
    (rest : List (String × Row)) : processTable proc ((id, row) :: rest) = none := by
  rw [processTable, h]

theorem processTable_cons_contained {proc : Row → RowOutcome R} {row : Row} (h : Contained proc row) (id : String)
    (rest : List (String × Row)) :
    processTable proc ((id, row) :: rest) = (processTable proc rest).map ((id, proc row) :: ·) := by
  rw [processTable]
  cases hp : proc row with
  | escape => exact absurd hp h
  | _ => cases processTable proc rest <;> rfl

/-- The whole behaviour of the batch loop: it completes iff no row escapes, and then lists, in table order,
what each row yields when processed alone. -/
theorem processTable_eq_some_iff {proc : Row → RowOutcome R} {rows : List (String × Row)} {res : List (String × RowOutcome R)} :
    processTable proc rows = some res ↔ (∀ r ∈ rows, Contained proc r.2) ∧ res = rows.map (fun r => (r.1, proc r.2)) := by
  induction rows generalizing res with
  | nil => exact ⟨fun h => ⟨nofun, (Option.some.inj h).symm⟩, fun h => h.2 ▸ rfl⟩
  | cons r rest ih =>
    obtain ⟨id, row⟩ := r
    by_cases hc : Contained proc row
    · rw [processTable_cons_contained hc, Option.map_eq_some_iff, List.forall_mem_cons]
      exact ⟨fun ⟨_, h, e⟩ => ⟨⟨hc, (ih.1 h).1⟩, e ▸ (ih.1 h).2 ▸ rfl⟩, fun ⟨h, e⟩ => ⟨_, ih.2 ⟨h.2, rfl⟩, e.symm⟩⟩
    · rw [processTable_cons_escape (Classical.not_not.1 hc)]
      exact ⟨nofun, fun h => absurd (h.1 _ List.mem_cons_self) hc⟩

/-- **No abort**: if every row either succeeds or raises a documented fault, the batch completes. -/
theorem batch_completes (proc : Row → RowOutcome R) (rows : List (String × Row))
    (h : ∀ r ∈ rows, Contained proc r.2) : ∃ res, processTable proc rows = some res :=
  ⟨_, processTable_eq_some_iff.2 ⟨h, rfl⟩⟩

/-- **Order and isolation**: results appear under the row identifiers in table order, and each row's entry is
exactly what that row yields when processed alone — independent of the other rows and of their position. -/
theorem isolation (proc : Row → RowOutcome R) (rows : List (String × Row)) (res : List (String × RowOutcome R))
    (h : processTable proc rows = some res) :
    res = rows.map (fun r => (r.1, proc r.2)) :=
  (processTable_eq_some_iff.1 h).2

theorem single_row (proc : Row → RowOutcome R) (id : String) (row : Row) (hc : Contained proc row) :
    processTable proc [(id, row)] = some [(id, proc row)] :=
  processTable_eq_some_iff.2 ⟨by simpa using hc, rfl⟩

theorem empty_table (proc : Row → RowOutcome R) : processTable proc [] = some [] := rfl

/-- an exception that is not a documented row fault aborts the batch (what the source does; the defect of
`ve.message` was exactly a documented fault turning into such an escape) -/
theorem escape_aborts (proc : Row → RowOutcome R) (pre post : List (String × Row)) (id : String) (row : Row)
    (h : proc row = .escape) : processTable proc (pre ++ (id, row) :: post) = none :=
  Option.eq_none_iff_forall_ne_some.2 fun _ hres => (processTable_eq_some_iff.1 hres).1 (id, row) (by simp) h

theorem sampleRowOutcome_contained (r : SampleRow) : Contained sampleRowOutcome r := by
  unfold Contained sampleRowOutcome
  cases sampleRowFault r <;> simp

/-- **Every documented row fault is recorded as that row's error and never aborts the batch**: whatever
combination of faults the rows of a table have, processing completes with one entry per row. -/
theorem documented_faults_never_abort (rows : List (String × SampleRow)) :
    ∃ res, processTable sampleRowOutcome rows = some res ∧ res = rows.map (fun r => (r.1, sampleRowOutcome r.2)) :=
  ⟨_, processTable_eq_some_iff.2 ⟨fun r _ => sampleRowOutcome_contained r.2, rfl⟩, rfl⟩

/-- precedence of the checks: a missing file hides everything else; too few events hide unit and gate problems -/
theorem fault_precedence (r : SampleRow) :
    (r.fileFound = false → sampleRowFault r = some .fileNotFound) ∧
    (r.fileFound = true → r.nEvents < 400 → sampleRowFault r = some .tooFewEvents) := by
  constructor
  · intro h; simp [sampleRowFault, h]
  · intro h1 h2; simp [sampleRowFault, h1, h2]

/-- a healthy row (file present, enough events, recognised units, calibration available and matching, gate
fraction in range) reports no fault -/
theorem healthy_row_no_fault (r : SampleRow) (h1 : r.fileFound = true) (h2 : 400 ≤ r.nEvents)
    (h3 : ∀ c ∈ r.channels, channelFault r.beadsTableGiven c.1 c.2 = none) (h4 : r.gateFractionOk = true) :
    sampleRowFault r = none := by
  have hf : r.channels.findSome? (fun (u, m) => channelFault r.beadsTableGiven u m) = none :=
    List.findSome?_eq_none_iff.2 h3
  simp [sampleRowFault, h1, Nat.not_lt.2 h2, hf, h4]

/-- "first failing check" over a list of (fault, condition) pairs is an `if … else if …` chain -/
theorem firstFailing_cons {F : Type} (f : F) (c : Bool) (l : List (F × Bool)) :
    (((f, c) :: l).find? (·.2)).map (·.1) = if c then some f else (l.find? (·.2)).map (·.1) := by
  cases c <;> rfl

/-- the decision table's MEF branch is "first failing check" over `mefChecks`, … -/
theorem channelFault_mef (bt : Bool) (u : List Char) (m : MefFacts) (hu : classify u = .mef) :
    channelFault bt u m = ((mefChecks bt m).find? (·.2)).map (·.1) := by
  unfold channelFault mefChecks
  rw [hu]
  simp only [firstFailing_cons]
  rfl

/-- … whose order is the order of the raise sites in the source, … -/
theorem mefChecks_in_source_order (bt : Bool) (m : MefFacts) :
    (mefChecks bt m).map (·.1) = (sampleFaultSites.drop 2).take 6 := rfl

/-- … and the raise sites the model lists are the ones the source has now, in the same order (regenerated on every run) -/
theorem raise_sites_match_source :
    Generated.sampleRaiseSites = sampleFaultSites.map faultMessage ∧ Generated.beadsRaiseSites = beadsFaultSites.map faultMessage := by
  constructor <;> rfl

/-! Non-vacuity: a 3-row table, middle row faulty -/
example : processTable (fun (n : Nat) => if n = 0 then RowOutcome.fault Fault.gateFraction else RowOutcome.ok (n * 2))
    [("a", 3), ("b", 0), ("c", 5)] = some [("a", .ok 6), ("b", .fault .gateFraction), ("c", .ok 10)] := by decide +kernel

end FlowCal.C11
