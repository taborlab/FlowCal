import Properties.C03
/-!
# C07 — Ranges follow the data through unit changes, so saturation gating commutes
-/
namespace FlowCal.C07
open FlowCal.Transform FlowCal.C03

set_option linter.unusedSectionVars false
variable {V : Type} [LT V] [DecidableLT V]

/-- `f` preserves and reflects the strict order (strictly increasing on a linear order) -/
def OrderEmb (f : V → V) : Prop := ∀ a b, a < b ↔ f a < f b

/-- a test of the pairs of two lists does not see a change of entry `n` of both under which the test is invariant -/
theorem all_zip_modify {α β : Type} {p : α × β → Bool} {f : α → α} {g : β → β} (h : ∀ a b, p (f a, g b) = p (a, b))
    {l : List α} {l' : List β} {n : Nat} : ((l.modify n f).zip (l'.modify n g)).all p = (l.zip l').all p := by
  induction l generalizing l' n with
  | nil => simp
  | cons a l ih => cases l' <;> cases n <;> simp [h, ih]

/-- **Gating commutes with conversion.**  If the converted channel's limits are the images of the
original limits under the same order-preserving function that converts the events, then the default
high/low gate keeps exactly the same events before and after the conversion. -/
theorem gate_convert_comm (s : Ranged V) (c : Nat) (f : V → V) (hf : OrderEmb f) :
    gateRows (convert c f s) = gateRows s := by
  simp only [gateRows, convert, mapCol, List.map_map]
  exact List.map_congr_left fun r _ => all_zip_modify fun x p => by simp only [← hf _ _]

/-- unconverted channels keep their limits, converted ones get the images of both limits -/
theorem limits_follow (s : Ranged V) (c j : Nat) (f : V → V) :
    (convert c f s).limits[j]? = if c = j then (s.limits[j]?).map (fun p => (f p.1, f p.2)) else s.limits[j]? := by
  unfold convert
  split
  · subst c; exact List.getElem?_modify_eq ..
  · exact List.getElem?_modify_ne _ _ ‹_›

/-! Non-vacuity: a 5-event integer column with events at 0, 1, r−2, r−1 (r = 8) -/
example : gateRows (⟨[[0], [1], [3], [6], [7]], [(0, 7)]⟩ : Ranged Int) = [false, true, true, true, false] := by decide +kernel
example : gateRows (convert 0 (fun x => 3 * x + 1) (⟨[[0], [1], [3], [6], [7]], [(0, 7)]⟩ : Ranged Int))
    = [false, true, true, true, false] := by decide +kernel

end FlowCal.C07
