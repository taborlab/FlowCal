import Properties.C06
import Batteries.Data.List.Basic
/-!
# C06 (continued) — names and positions are interchangeable spellings of a channel

On a sample whose channel names are distinct, the name of column `i` and the position `i` resolve to the same channel; hence the plan
`to_mef` executes (which curve goes to which column) is the same however the requested channels and the channels of the curves are spelt.
-/
namespace FlowCal.C06
open FlowCal.Transform FlowCal.Py FlowCal.C03

variable {P : Type}

/-- two references that name the same channel of the sample `m` -/
def SameChannel (m : Meta P) (r r' : Ref) : Prop := resolve m r = resolve m r'

theorem idxOf?_getElem_of_nodup {l : List String} (h : l.Nodup) {i : Nat} (hi : i < l.length) : l.idxOf? l[i] = some i :=
  List.idxOf?_eq_some_iff.mpr ⟨hi, rfl, fun _ hj he => Nat.ne_of_lt hj ((List.getElem_inj h).mp he)⟩

/-- on a sample with distinct channel names, the name of column `i` and the position `i` are the same channel -/
theorem name_pos_same (m : Meta P) (hs : m.isSample = true) (hn : m.names.Nodup) (hl : m.names.length = m.ncols) (i : Nat) (hi : i < m.ncols) :
    SameChannel m (.name (m.names[i]'(hl ▸ hi))) (.pos (i : Int)) := by
  have h1 : ((i : Int) < m.ncols && (i : Int) ≥ -(m.ncols : Int)) = true := by simp; omega
  simp only [SameChannel, resolve, hs, if_true, idxOf?_getElem_of_nodup hn, h1]

/-- all that `to_mef` and `to_rfi` read of a list of references, its length and the channels it resolves to, is the same for two spellings -/
theorem spelling_congr {m : Meta P} {l l' : List Ref} (h : List.Forall₂ (SameChannel m) l l') :
    l.length = l'.length ∧ l.mapM (resolve m) = l'.mapM (resolve m) := by
  induction h with
  | nil => exact ⟨rfl, rfl⟩
  | cons hr _ ih => exact ⟨congrArg (· + 1) ih.1, by rw [List.mapM_cons, List.mapM_cons, hr, ih.2]⟩

/-- **The plan of `to_mef` does not depend on how channels are spelt**: replacing any reference — in the requested channels or in the
channels of the curves — by another spelling of the same channel leaves the result unchanged (the same columns get the same curves, or the
same refusal). -/
theorem toMef_spelling_irrelevant (m : Meta P) (hs : m.isSample = true) (n : Nat) (req req' sc sc' : List Ref)
    (hreq : List.Forall₂ (SameChannel m) req req') (hsc : List.Forall₂ (SameChannel m) sc sc') :
    toMef m (some (.inr req)) n (some sc) = toMef m (some (.inr req')) n (some sc') := by
  unfold toMef
  simp only [hs, if_true, spelling_congr hsc, spelling_congr hreq]

/-- the same for a single requested channel -/
theorem toMef_spelling_irrelevant_scalar (m : Meta P) (hs : m.isSample = true) (n : Nat) (r r' : Ref) (sc sc' : List Ref)
    (hr : SameChannel m r r') (hsc : List.Forall₂ (SameChannel m) sc sc') :
    toMef m (some (.inl r)) n (some sc) = toMef m (some (.inl r')) n (some sc') := by
  unfold SameChannel at hr
  unfold toMef
  simp only [hs, if_true, spelling_congr hsc, hr]

/-- non-vacuity: a three-channel sample; `['FL1-H', 0]` and `[1, 'FSC-H']` are the same request -/
example : let m : Meta Nat := ⟨true, 3, ["FSC-H", "FL1-H", "FL2-H"], [], [], []⟩
    toMef m (some (.inr [.name "FL1-H", .pos 0])) 2 (some [.pos 1, .name "FSC-H"]) =
    toMef m (some (.inr [.pos 1, .name "FSC-H"])) 2 (some [.name "FL1-H", .pos 0]) ∧
    toMef m (some (.inr [.name "FL1-H", .pos 0])) 2 (some [.pos 1, .name "FSC-H"]) = .ok [(1, 0), (0, 1)] := by decide +kernel

end FlowCal.C06
