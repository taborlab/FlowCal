import Properties.FileStages
import Properties.ExceptLemmas
import Properties.C14
import Properties.C01
import Properties.C16
import Properties.C04
import Properties.C20
import Properties.C20b
import Properties.C13
import Properties.C08
import Properties.C05
import Properties.C03
import Properties.C06
import Properties.C06b
import Properties.C07
import Properties.C17
import Properties.C12
import Properties.C18
import Properties.C19
import Properties.C09
import Properties.C02
import Properties.C02b
import Properties.C17b
import Properties.C10
import Properties.C11
import Properties.C15
import Properties.C01b
import Properties.C01c
import Properties.C01d
import Properties.C01e
import Properties.C01f
import Properties.C01g
import Properties.C07b
import Properties.C03b
import Properties.C04b
import Properties.C16b
import Properties.C16c
import Properties.C16d
import Properties.C14b
import Properties.C18b
import Properties.C05b
import Properties.C03c
import Properties.C03d
import Properties.C07c
import Properties.C08c
import Properties.C08d
import Properties.C09c
import Properties.C09d
import Properties.C18c
import Properties.C18d
import Properties.C19c
import Properties.C12b
import Properties.C12c
